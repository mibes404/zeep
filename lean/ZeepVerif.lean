import ZeepVerif.AuditLib
import ZeepVerif.Driver.C06
import ZeepVerif.Driver.C06Spec
import ZeepVerif.Driver.Gen
import ZeepVerif.Driver.HttpDrv
import ZeepVerif.Driver.ReadDrv
import ZeepVerif.Driver.SpecGen
import ZeepVerif.Driver.Util
import ZeepVerif.Driver.YaDrv
import ZeepVerif.Generated.Cli
import ZeepVerif.Generated.Restrictions
import ZeepVerif.Generated.Send
import ZeepVerif.Generated.Sites
import ZeepVerif.Generated.Tables
import ZeepVerif.Inflector
import ZeepVerif.Lemmas.Abbrev
import ZeepVerif.Lemmas.StepWords
import ZeepVerif.Lemmas.Returns
import ZeepVerif.Lemmas.DocOps
import ZeepVerif.Lemmas.FileSteps
import ZeepVerif.Lemmas.Frame
import ZeepVerif.Lemmas.NodeSteps
import ZeepVerif.Lemmas.Flatten
import ZeepVerif.Lemmas.Flow
import ZeepVerif.Lemmas.Ident
import ZeepVerif.Lemmas.Literal
import ZeepVerif.Lemmas.MayRepeat
import ZeepVerif.Lemmas.ReadComp
import ZeepVerif.Lemmas.ReadDecide
import ZeepVerif.Lemmas.ReadDecideG
import ZeepVerif.Lemmas.ReadDecideX
import ZeepVerif.Lemmas.ReadExt
import ZeepVerif.Lemmas.ReadField
import ZeepVerif.Lemmas.ReadFile
import ZeepVerif.Lemmas.ReadGraph
import ZeepVerif.Lemmas.ReadImport
import ZeepVerif.Lemmas.ReadSpec
import ZeepVerif.Lemmas.SplitType
import ZeepVerif.Lemmas.WriteDoc
import ZeepVerif.Lemmas.Keeps
import ZeepVerif.Lemmas.KeepsFile
import ZeepVerif.Lemmas.Irrelevant
import ZeepVerif.Lemmas.Envelope
import ZeepVerif.Lemmas.Depth
import ZeepVerif.Lemmas.DepthFile
import ZeepVerif.Lemmas.YaOfDoc
import ZeepVerif.Lemmas.YaRt
import ZeepVerif.Lemmas.YaWf
import ZeepVerif.Model.Cli
import ZeepVerif.Model.Emit
import ZeepVerif.Model.Http
import ZeepVerif.Model.Reader
import ZeepVerif.Model.Sink
import ZeepVerif.Model.Text
import ZeepVerif.Model.Types
import ZeepVerif.Props.C01
import ZeepVerif.Props.C02
import ZeepVerif.Props.C02Read
import ZeepVerif.Props.C02All
import ZeepVerif.Props.C08All
import ZeepVerif.Props.CpxAll
import ZeepVerif.Props.DocAll
import ZeepVerif.Props.C09Denote
import ZeepVerif.Props.C08Denote
import ZeepVerif.Props.C09Ref
import ZeepVerif.Props.C02Field
import ZeepVerif.Props.C03
import ZeepVerif.Props.C03End
import ZeepVerif.Props.C03Ya
import ZeepVerif.Props.C04
import ZeepVerif.Props.C04Ya
import ZeepVerif.Props.C05
import ZeepVerif.Props.C05Ya
import ZeepVerif.Props.C05All
import ZeepVerif.Props.C06
import ZeepVerif.Props.C07
import ZeepVerif.Props.C07Tree
import ZeepVerif.Props.C08
import ZeepVerif.Props.C08Read
import ZeepVerif.Props.C09
import ZeepVerif.Props.C09Read
import ZeepVerif.Props.C09All
import ZeepVerif.Props.C10
import ZeepVerif.Props.C10Graph
import ZeepVerif.Props.C10Read
import ZeepVerif.Props.C10All
import ZeepVerif.Props.C11
import ZeepVerif.Props.C11Demo
import ZeepVerif.Props.C11Read
import ZeepVerif.Props.C11All
import ZeepVerif.Props.C12
import ZeepVerif.Props.C13
import ZeepVerif.Props.C13All
import ZeepVerif.Props.C14
import ZeepVerif.Props.C15
import ZeepVerif.Props.C16
import ZeepVerif.Props.C17
import ZeepVerif.Props.C18
import ZeepVerif.Props.C19
import ZeepVerif.Runtime.Prelude
import ZeepVerif.RustLex
import ZeepVerif.Spec.Facets
import ZeepVerif.Spec.Gen
import ZeepVerif.Spec.Grammar
import ZeepVerif.Spec.Instance
import ZeepVerif.Spec.ToX
import ZeepVerif.Xml
import ZeepVerif.Ya.Model
import ZeepVerif.Ya.OfDoc
import ZeepVerif.Ya.OfSoap
