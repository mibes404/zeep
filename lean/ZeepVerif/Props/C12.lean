/-
C12 — generation is a deterministic function of the input files.
-/
import ZeepVerif.Model.Emit
import ZeepVerif.Generated.Sites

namespace ZeepVerif.Props.C12
open ZeepVerif.Model ZeepVerif.Generated

/-- the only containers with an unspecified iteration order are iterated in ways that do not depend on
    that order: clearing every flag, and insert-if-absent of distinct keys. Every other container whose
    order reaches the output is a `Vec` or a `BTreeMap` (no other hash container field exists). -/
theorem c12_no_order_dependent_iteration :
    Sites.hashIterSites.all (fun s => s.2.2.2 == "store-const" || s.2.2.2 == "entry-or-insert") = true ∧
    Sites.hashFields.all (fun f => f.2.2.1 == "namespace_lookup" || f.2.2.1 == "map") = true := by
  decide +kernel

/-- registration order: the reader sees the file table only through lookups by name, so two tables
    that answer every lookup alike give the same document -/
theorem c12_registration (files files' : List XFile) (start : String) (fuel : Nat)
    (h : ∀ n, fileTable files n = fileTable files' n) : readXml files start fuel = readXml files' start fuel := by
  have : fileTable files = fileTable files' := funext h
  simp [readXml, this]

/-- a table with pairwise distinct names finds by name exactly its members -/
theorem fileTable_eq_some {files : List XFile} (hnd : (files.map (·.name)).Nodup) {n : String} {x : XFile} :
    fileTable files n = some x ↔ x ∈ files ∧ x.name = n := by
  refine ⟨fun h => ⟨List.mem_of_find?_eq_some h, by simpa using List.find?_some h⟩, ?_⟩
  rintro ⟨hx, rfl⟩
  induction files with
  | nil => cases hx
  | cons a l ih =>
    rw [List.map_cons, List.nodup_cons] at hnd
    rcases List.mem_cons.mp hx with rfl | hx
    · exact List.find?_cons_of_pos (by simp)
    · have : a.name ≠ x.name := fun e => hnd.1 (e ▸ List.mem_map_of_mem hx)
      exact (List.find?_cons_of_neg (by simpa using this)).trans (ih hnd.2 hx)

/-- permuting the registration order of files with pairwise distinct names does not change any lookup -/
theorem c12_lookup_perm (files files' : List XFile) (hp : files.Perm files')
    (hnd : (files.map (·.name)).Nodup) : ∀ n, fileTable files n = fileTable files' n := fun n =>
  Option.ext fun x => by
    rw [fileTable_eq_some hnd, fileTable_eq_some ((hp.map _).nodup_iff.mp hnd), hp.mem_iff]

/-- call histories: whatever flags earlier calls left on the object, the next call computes the same
    document (the flags are cleared before they are consulted) -/
theorem c12_repeat (files : String → Option XFile) (start : String) (flags : RS) (fuel : Nat) :
    (readXmlOn files start flags fuel).1 = (readXmlOn files start {} fuel).1 := by
  simp [readXmlOn]

/-- in particular the second and third call on one object return what the first returned -/
theorem c12_history (files : String → Option XFile) (start : String) (fuel : Nat) :
    let r1 := readXmlOn files start {} fuel
    let r2 := readXmlOn files start r1.2 fuel
    let r3 := readXmlOn files start r2.2 fuel
    r2.1 = r1.1 ∧ r3.1 = r1.1 := by
  simp only
  exact ⟨c12_repeat files start _ fuel, c12_repeat files start _ fuel⟩

/-- writing is a function of the document: no state, no clock, no environment enters the text (the content is
    `writeDoc`'s type; the statement holds of any function) -/
theorem c12_write_function (d d' : Doc) (h : d = d') : writeDoc d = writeDoc d' := by rw [h]

end ZeepVerif.Props.C12
