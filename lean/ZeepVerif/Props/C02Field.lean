/-
Members declared by name, for every input: namespace and type of what `Field::try_from_node` returns on its `name=` branch.
-/
import ZeepVerif.Props.C09Ref

namespace ZeepVerif.Props.C02Field
open ZeepVerif.Model ZeepVerif.Lemmas.Keeps Std.Do ZeepVerif.Props.C09Denote

def NamedFieldOf (node : XNode) (f : Field) : Prop :=
  ∃ d : Doc, f.tns = d.current ∧
    f.rustType = (match node.attr? "type" with
      | some t => asRustType d t
      | none => FType.string)

theorem namedFieldOf_of_full {D node ctx o f} (h : C02All.FieldFull D node ctx o f) (hany : (node.tag == "any") = false)
    (href : node.attr? "ref" = none) : NamedFieldOf node f := by
  cases h with
  | any h => rw [hany] at h; cases h
  | xml _ hr _ => rw [href] at hr; cases hr
  | ref _ _ hr _ _ => rw [href] at hr; cases hr
  | named d _ _ _ => exact ⟨d, rfl, rfl⟩

theorem field_named_spec (node : XNode) (ctx : Ctx) (fuel : Nat) :
    ⦃fun _ => ⌜True⌝⦄ fieldFromNode node ctx fuel
    ⦃post⟨fun f _ => ⌜(node.tag == "any") = false → node.attr? "ref" = none → NamedFieldOf node f⌝, fun _ _ => ⌜True⌝⟩⦄ :=
  (C02All.field_full fnd_denotes node ctx fuel).mono (fun _ h => namedFieldOf_of_full h)

/-- C02/C09 for a member without `ref=` (and not a wildcard): for some document state `d` its namespace is `d.current` and its type
    what `as_rust_type` makes of the `type=` attribute under the prefix table of the same `d` (`String` without `type=`); that `d` is
    the state at that moment of the run is not in the statement. With `C02All.FieldOf` (flags and names) this is everything a named
    member carries. -/
theorem c02_named_member_all_inputs (node : XNode) (ctx : Ctx) (fuel : Nat) (d : Doc) (f : Field)
    (hany : (node.tag == "any") = false) (href : node.attr? "ref" = none)
    (h : (runNM (fieldFromNode node ctx fuel) d).1 = .ok f) : NamedFieldOf node f :=
  Returns.run (field_named_spec node ctx fuel) h hany href

end ZeepVerif.Props.C02Field
