/-
C04 — schema-valid instances deserialize losslessly and round-trip.
The generator-side facts: a member is a `Vec` exactly when it or an enclosing particle may repeat; the builtin table is
wide enough for the bounded XSD integer types, not for `xs:integer`. The run-time half is `Props/C04Ya`.
-/
import ZeepVerif.Model.Emit
import ZeepVerif.Lemmas.MayRepeat

namespace ZeepVerif.Props.C04
open ZeepVerif.Model ZeepVerif.Generated

/-- a member whose own `maxOccurs` or whose enclosing particles allow repetition is a `Vec` -/
theorem c04_repeatable_is_vec (node : XNode) (anc : List XNode)
    (h : mayRepeat (node.attr? "maxOccurs") = true ∨ (enclosingParticles anc).any (fun n => mayRepeat (n.attr? "maxOccurs")) = true) :
    (occurrence node anc).isVec = true :=
  Bool.or_eq_true_iff.mpr h

/-- and only then: a member that cannot repeat is never a `Vec` -/
theorem c04_vec_only_when_repeatable (node : XNode) (anc : List XNode) (h : (occurrence node anc).isVec = true) :
    mayRepeat (node.attr? "maxOccurs") = true ∨ (enclosingParticles anc).any (fun n => mayRepeat (n.attr? "maxOccurs")) = true :=
  Bool.or_eq_true_iff.mp h

/-- `unbounded` and none at all; a number ≤ 2^64−1 is `mayRepeat_repr` (`Lemmas/MayRepeat`) -/
theorem c04_mayRepeat_cases : mayRepeat (some "unbounded") = true ∧ mayRepeat none = false :=
  ⟨mayRepeat_unbounded, mayRepeat_none⟩

/-- value ranges of the bounded XSD integer types, and of the Rust types the table maps them to -/
def xsdRange : String → Option (Int × Int)
  | "byte" => some (-128, 127) | "short" => some (-32768, 32767) | "int" => some (-2147483648, 2147483647)
  | "long" => some (-9223372036854775808, 9223372036854775807)
  | "unsignedByte" => some (0, 255) | "unsignedShort" => some (0, 65535) | "unsignedInt" => some (0, 4294967295)
  | "unsignedLong" => some (0, 18446744073709551615)
  | _ => none

def carrierRange : String → Option (Int × Int)
  | "i8" => some (-128, 127) | "i16" => some (-32768, 32767) | "i32" => some (-2147483648, 2147483647)
  | "i64" => some (-9223372036854775808, 9223372036854775807)
  | "u8" => some (0, 255) | "u16" => some (0, 65535) | "u32" => some (0, 4294967295) | "u64" => some (0, 18446744073709551615)
  | _ => none

/-- width, partial: every *bounded* XSD integer type is mapped to a Rust type that holds its whole value
    space (the full statement, for all builtins, is false — see `c04_width_counterexample`) -/
theorem c04_width_partial :
    ["byte", "short", "int", "long", "unsignedByte", "unsignedShort", "unsignedInt", "unsignedLong"].all (fun b =>
      match xsdRange b, (Tables.builtinTable.find? (fun r => r.1 == b)).bind (fun r => carrierRange r.2) with
      | some (lo, hi), some (clo, chi) => decide (clo ≤ lo) && decide (hi ≤ chi)
      | _, _ => false) = true := by
  decide +kernel

/-- `xs:integer` is unbounded but mapped to `i32`: 2^31 is a valid instance value that the
    carrier cannot hold (second conjunct: that arithmetic, not taken from `carrierRange`) -/
theorem c04_width_counterexample :
    (Tables.builtinTable.find? (fun r => r.1 == "integer")).map (·.2) = some "i32" ∧
    ¬ ((2147483648 : Int) ≤ 2147483647) := by
  decide

end ZeepVerif.Props.C04
