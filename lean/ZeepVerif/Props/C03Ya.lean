/-
C03 on the wire, in the yaserde environment model `Ya` (lean/ZeepVerif/Ya/Model.lean; the model is compared with the
real crates on every run): what any value of any generated complex type serialises to.
-/
import ZeepVerif.Lemmas.YaWf
import ZeepVerif.Lemmas.YaRt
import ZeepVerif.Lemmas.YaOfDoc

namespace ZeepVerif.Props.C03Ya
open ZeepVerif.Model ZeepVerif.Ya ZeepVerif.Lemmas.YaWf ZeepVerif.Lemmas.YaRt ZeepVerif.Lemmas.YaOfDoc

/-- every prefix used in the document is declared in it: for a program whose structs declare what their members use
    (`declared`), the serialised document of every value resolves — each prefix of an element or attribute name is
    bound by an `xmlns:` declaration on that element or an ancestor -/
theorem c03_every_prefix_declared (P : Prog) (hP : declared P = true) (n : String) (v : Val) (px : PX)
    (h : serRoot P n v = some px) : (resolve [] px).isSome := by
  unfold serRoot at h
  split at h
  next sd hf =>
    apply serVal_resolves P hP [] (sd.pfx, sd.rename) (.struct n) v px h
    simp only [declsOf, hf, List.append_nil]
    exact (structOK_iff.mp (List.all_eq_true.mp hP sd (find_mem hf))).1
  next => cases h

/-- `declared`, struct by struct (`structOK`), for every struct the writer emits for a complex type, whatever the
    reader produced. `hnone`: `Lemmas/YaOfDoc.NoneOK`. -/
theorem c03_complex_structs_declare (P : Prog) (m : Option String) (p : CProps)
    (hnone : p.tns = none → ∀ f ∈ p.fields, f.isAttribute = false → f.tns = none) :
    structOK P (structOfComplex m p) = true :=
  structOfComplex_ok P m p hnone

/-- and for the whole derive input of a document (`Ya.progOf`: complex types, anonymous-typed elements, simple types);
    with `c03_every_prefix_declared`, every value of every such struct serialises to namespace-well-formed XML -/
theorem c03_document_program_declared (d : Doc) (h : ∀ n ∈ d.nodes, NodeOK n) : declared (progOf d) = true := by
  unfold declared
  rw [List.all_eq_true]
  intro sd hsd
  unfold progOf at hsd
  simp only [List.mem_map, List.mem_flatMap] at hsd
  obtain ⟨sd0, ⟨n, hn, hsd0⟩, rfl⟩ := hsd
  exact structOK_leaf_irrelevant _ sd0 _ (structsOfNode_ok _ n (h n hn) sd0 hsd0)

/-- the text the writer emits *is* the spelling of that derive input: member attribute line … -/
theorem c03_member_attribute_spelled (m : Option String) (f : Field) :
    (writeField f).head? = some (spellField (fieldOf m f)) := by
  cases ha : f.isAttribute <;> cases ht : f.tns <;> simp [writeField, spellField, fieldOf, ha, ht]

/-- … and struct attribute line -/
theorem c03_struct_attribute_spelled (m : Option String) (xn : String) (fs : List Field) (t : Ns) (c : Option String) :
    spellStruct (structOfComplex m ⟨xn, fs, some t, c⟩) ∈ complexHead ⟨xn, fs, some t, c⟩ := by
  unfold complexHead
  apply List.mem_append_left
  apply List.mem_append_right
  show _ ∈ [_]
  rw [List.mem_singleton]
  unfold spellStruct structOfComplex
  simp only [Option.map_some, Option.getD_some, List.map_map, Function.comp_def]

/-- every element carries the local name and namespace of its declaration: an item of member `f` of struct `sd` is read
    back with local name `f.rename` and the namespace `sd`'s `namespaces` give to `f`'s prefix, even though the item's
    own start tag may declare further prefixes (they agree: `consistent`, which is C10) -/
theorem c03_member_element_name (P : Prog) (hP : core P = true) (sd : StructD) (hsd : sd ∈ P) (f : FieldD)
    (hb : bound sd.nss f.pfx = true) (env0 : List (String × String)) (v : Val) (px : PX) (rx : RX)
    (hok : okVal P f.leaf v = true) (hs : serVal P (f.pfx, f.rename) f.leaf v = some px)
    (hr : resolve (sd.nss ++ env0) px = some rx) :
    rx.lname = f.rename ∧ rx.ns.getD "" = sd.fieldNs f := by
  obtain ⟨hl, hn⟩ := resolved_label hs hr
  refine ⟨hl, ?_⟩
  rw [hn]
  exact key_agree (core_mem hP hsd).2 hsd hb env0

/-! non-vacuity: a program (a complex type with a primitive element, a repeated element of a type of another
    namespace, an optional attribute; that type; a simple-type wrapper) that meets every hypothesis, and a value of it -/
def demoP : Prog := [
  { name := "m::Order", pfx := some "a", nss := [("a", "urn:a"), ("b", "urn:b")], rename := "Order",
    fields := [ { kind := .elem, pfx := some "a", rename := "id", wrap := .one, leaf := .prim (.int "i32") },
                { kind := .elem, pfx := some "b", rename := "item", wrap := .vec, leaf := .struct "n::Item" },
                { kind := .attr, pfx := none, rename := "code", wrap := .opt, leaf := .prim .string } ] },
  { name := "n::Item", pfx := some "b", nss := [("b", "urn:b")], rename := "Item",
    fields := [ { kind := .elem, pfx := some "b", rename := "name", wrap := .one, leaf := .struct "n::Name" } ] },
  { name := "n::Name", pfx := some "b", nss := [("b", "urn:b")], rename := "Name",
    fields := [ { kind := .text, pfx := none, rename := "value", wrap := .one, leaf := .prim .string } ] } ]

def demoV : Val :=
  .struct "m::Order" (.cons (.cons (.prim "7") .nil) (.cons (.cons (.struct "n::Item" (.cons (.cons (.struct "n::Name"
    (.cons (.cons (.prim "x") .nil) .nil)) .nil) .nil)) .nil) (.cons (.cons (.prim "c") .nil) .nil)))

example : declared demoP = true ∧ core demoP = true ∧ okVal demoP (.struct "m::Order") demoV = true ∧
    (serRoot demoP "m::Order" demoV).isSome = true := by decide

end ZeepVerif.Props.C03Ya
