/-
C10 — namespace → prefix/module assignment is injective and stable within one output.
The abbreviation loop always yields a free abbreviation, and "one abbreviation ↔ one URI" survives every operation on
the tables (doc.rs), the merge of an imported document included.
-/
import ZeepVerif.Lemmas.Abbrev
import ZeepVerif.Lemmas.DocOps

namespace ZeepVerif.Props.C10
open ZeepVerif.Model

theorem mkNs_abbreviation (url : String) (existing : List Ns) :
    (mkNs url existing).abbreviation =
      if startsWithXml (makeAbbreviatedNamespace url existing) then makeAbbreviatedNamespace "" existing
      else makeAbbreviatedNamespace url existing := by
  simp only [mkNs, abbreviationForNewNamespace]

/-- a namespace created for `url` gets an abbreviation (hence a prefix and a module name) that no known namespace has,
    whatever the number of collisions -/
theorem c10_fresh (url : String) (existing : List Ns) :
    (mkNs url existing).abbreviation ∉ existing.map (·.abbreviation) ∧
    (mkNs url existing).uri = url ∧
    (mkNs url existing).rustModName = "mod_" ++ (mkNs url existing).abbreviation := by
  refine ⟨?_, rfl, by simp only [mkNs]⟩
  rw [mkNs_abbreviation]
  split <;> exact findFree_fresh _ _

/-- the abbreviation of a new namespace never begins with the reserved `xml`: the fallback stem is `ns` -/
theorem c10_never_reserved (url : String) (existing : List Ns) :
    startsWithXml (mkNs url existing).abbreviation = false := by
  rw [mkNs_abbreviation]
  split
  · obtain ⟨s, hs⟩ := findFreeAbbr_prefix (abbreviationBase "") (existing.map (·.abbreviation))
      ((existing.map (·.abbreviation)).length + 1) 0
    have hb : abbreviationBase "" = "ns" := by decide +kernel
    rw [makeAbbreviatedNamespace, hs, hb, startsWithXml, String.toList_append]
    simp
  · next hx => simpa using hx

/-- vacuous: `c10_never_reserved` refutes the hypothesis -/
theorem c10_not_reserved (url : String) (existing : List Ns)
    (h : startsWithXml (mkNs url existing).abbreviation = true) :
    startsWithXml (makeAbbreviatedNamespace "" existing) = true := by
  rw [c10_never_reserved] at h
  cases h

/-- the invariant of the namespace list: an abbreviation stands for one URI and a URI has one
    abbreviation (entries may repeat — `switch_to_target_namespace` pushes a known namespace again) -/
def NsInv (l : List Ns) : Prop :=
  ∀ a ∈ l, ∀ b ∈ l, (a.abbreviation = b.abbreviation → a = b) ∧ (a.uri = b.uri → a = b)

theorem nsInv_append_fresh {l : List Ns} {n : Ns} (h : NsInv l)
    (ha : n.abbreviation ∉ l.map (·.abbreviation)) (hu : ∀ x ∈ l, x.uri ≠ n.uri) : NsInv (l ++ [n]) := by
  have ha' : ∀ x ∈ l, x.abbreviation ≠ n.abbreviation := fun x hx e => ha (e ▸ List.mem_map_of_mem hx)
  intro a hal b hbl
  simp only [List.mem_append, List.mem_singleton] at hal hbl
  rcases hal with hal | rfl <;> rcases hbl with hbl | rfl
  · exact h a hal b hbl
  · exact ⟨fun e => absurd e (ha' a hal), fun e => absurd e (hu a hal)⟩
  · exact ⟨fun e => absurd e.symm (ha' b hbl), fun e => absurd e.symm (hu b hbl)⟩
  · exact ⟨fun _ => rfl, fun _ => rfl⟩

theorem NsInv.mono {l l' : List Ns} (h : NsInv l) (hs : ∀ x ∈ l', x ∈ l) : NsInv l' :=
  fun a ha b hb => h a (hs a ha) b (hs b hb)

theorem nsInv_append_known {l : List Ns} {n : Ns} (h : NsInv l) (hn : n ∈ l) : NsInv (l ++ [n]) :=
  h.mono fun _ hx => (List.mem_append.mp hx).elim id fun e => List.mem_singleton.mp e ▸ hn

/-- `add_namespace_reference` keeps the invariant -/
theorem c10_add_preserves (d : Doc) (abbr url : String) (h : NsInv d.namespaces) :
    NsInv (d.addNamespaceReference abbr url).namespaces :=
  Doc.addNamespaceReference_elim (motive := fun d' => NsInv d'.namespaces) d abbr url (fun _ => h) (fun _ _ _ => h)
    fun hu _ => nsInv_append_fresh h (c10_fresh url d.namespaces).1 (find_uri_none hu)

/-- `add_default_namespace` allocates nothing: the default namespace gets no abbreviation of its own -/
theorem c10_default_preserves (d : Doc) (url : String) :
    (d.addDefaultNamespace url).namespaces = d.namespaces :=
  Doc.addDefaultNamespace_elim (motive := fun d' => d'.namespaces = d.namespaces) d url (fun _ => rfl) fun _ => rfl

/-- `switch_to_target_namespace` keeps the invariant (a new target namespace is abbreviated against
    *all* known namespaces) -/
theorem c10_switch_preserves (d : Doc) (ns : String) (h : NsInv d.namespaces) :
    NsInv (d.switchToTargetNamespace ns).namespaces :=
  Doc.switchToTargetNamespace_elim (motive := fun d' => NsInv d'.namespaces) d ns (fun _ => h) fun n _ hn => by
    rcases hn with hf | ⟨hf, rfl⟩
    · exact nsInv_append_known h (find_uri_some hf).1
    · exact nsInv_append_fresh h (c10_fresh ns d.namespaces).1 (find_uri_none hf)

/-- collecting all xmlns declarations of a node keeps the invariant -/
theorem c10_collect_preserves (nss : List (Option String × String)) (d : Doc) (h : NsInv d.namespaces) :
    NsInv (d.collectNamespaces nss).namespaces :=
  Doc.collectNamespaces_keeps (motive := fun d => NsInv d.namespaces) c10_add_preserves
    (fun d u h => (c10_default_preserves d u).symm ▸ h) nss d h

/-- merging an imported document keeps the invariant, because the imported document was started from
    the importer's namespaces (`init_with_known_namespaces`): everything the importer knows is in it -/
theorem c10_extend_preserves (me other : Doc) (ho : NsInv other.namespaces)
    (hseed : ∀ x ∈ me.namespaces, x ∈ other.namespaces) : NsInv (me.extend other).namespaces :=
  ho.mono fun x hx => (mem_extendNoDuplicates.mp hx).elim (hseed x) id

/-! non-vacuity -/
example : NsInv [⟨"u1", "typ", "mod_typ"⟩, ⟨"u2", "typ1", "mod_typ1"⟩, ⟨"u1", "typ", "mod_typ"⟩] := by
  intro a ha b hb
  simp at ha hb
  rcases ha with rfl | rfl | rfl <;> rcases hb with rfl | rfl | rfl <;> simp

end ZeepVerif.Props.C10
