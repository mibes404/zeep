/-
C05, binding level, for every binding node and port-type operation: which message parts an operation's envelope holds,
read off the closed form `envelopeOf` of `read_port_operation` (`Lemmas/Envelope`). What node a part denotes (the global
element its `element=` QName refers to) is `messageFromNode` + C09.
-/
import ZeepVerif.Lemmas.Envelope

namespace ZeepVerif.Props.C05All
open ZeepVerif.Model ZeepVerif.Lemmas.Envelope

theorem c05_envelope_closed_form (n : XNode) (po : PortOp) (isInput : Bool) (d : Doc) :
    runNM (bindingEnvelope n po isInput) d = (envelopeOf n po isInput, d) :=
  bindingEnvelope_run n po isInput d

/-- the part of the direction's own message -/
def partOf (po : PortOp) (isInput : Bool) (name : String) : Option RNode :=
  ((msgOf po isInput).bind (fun m => bmGet m.parts name)).map (·.1)

theorem partNode_ok (po : PortOp) (isInput : Bool) (part : String) (rn : RNode) (h : partNode po isInput part = .ok rn) :
    partOf po isInput (splitType part).1 = some rn := by
  unfold partNode at h
  unfold partOf
  split at h
  · next r ns hr => cases h; simp [hr]
  · cases h

theorem envelopeOf_eq_ok {n : XNode} {po : PortOp} {isInput : Bool} {env : Envelope} :
    envelopeOf n po isInput = .ok env ↔
      bodyOf n po isInput = .ok env.body ∧ headersOf po isInput (elemKidsTagged n "header") = .ok env.headers := by
  unfold envelopeOf
  cases env
  cases bodyOf n po isInput <;> cases headersOf po isInput (elemKidsTagged n "header") <;> simp [and_comm]

theorem bodyOf_ok {n : XNode} {po : PortOp} {isInput : Bool} {rn : RNode} {b : XNode} (hb : firstElemKid n "body" = some b)
    (h : bodyOf n po isInput = .ok rn) :
    match b.attr? "parts" with
    | some parts => partNode po isInput parts = .ok rn
    | none => ∃ msg kv, msgOf po isInput = some msg ∧
        msg.parts.find? (fun kv => !((elemKidsTagged n "header").filterMap (·.attr? "part")).contains kv.1) = some kv ∧
        rn = kv.2.1 := by
  unfold bodyOf at h
  simp only [hb] at h
  split at h
  · cases h
  split at h
  · cases h
  split at h
  · next hp => rwa [hp]
  · next hp =>
    rw [hp]
    split at h
    · next hf =>
      obtain ⟨msg, hm, hf⟩ := Option.bind_eq_some_iff.mp hf
      exact ⟨msg, _, hm, hf, (Except.ok.inj h).symm⟩
    · cases h

theorem c05_body_is_the_named_part (n : XNode) (po : PortOp) (isInput : Bool) (env : Envelope) (b : XNode) (parts : String)
    (h : envelopeOf n po isInput = .ok env) (hb : firstElemKid n "body" = some b) (hp : b.attr? "parts" = some parts) :
    partOf po isInput (splitType parts).1 = some env.body := by
  have hbody := bodyOf_ok hb (envelopeOf_eq_ok.mp h).1
  rw [hp] at hbody
  exact partNode_ok po isInput parts env.body hbody

/-- implicit body part: without `parts=` the Body is the node of the first part of the direction's message whose name no
    `soap:header` of that direction binds — in particular never a header part -/
theorem c05_implicit_body_is_first_unbound_part (n : XNode) (po : PortOp) (isInput : Bool) (env : Envelope) (b : XNode)
    (h : envelopeOf n po isInput = .ok env) (hb : firstElemKid n "body" = some b) (hp : b.attr? "parts" = none) :
    ∃ msg kv, msgOf po isInput = some msg ∧
      msg.parts.find? (fun kv => !((elemKidsTagged n "header").filterMap (·.attr? "part")).contains kv.1) = some kv ∧
      kv.1 ∉ (elemKidsTagged n "header").filterMap (·.attr? "part") ∧ env.body = kv.2.1 := by
  have hbody := bodyOf_ok hb (envelopeOf_eq_ok.mp h).1
  rw [hp] at hbody
  obtain ⟨msg, kv, hm, hf, e⟩ := hbody
  exact ⟨msg, kv, hm, hf, by simpa using List.find?_some hf, e⟩

theorem headersOf_cons_eq_ok {po : PortOp} {isInput : Bool} {x : XNode} {xs : List XNode} {hs : List (String × RNode)} :
    headersOf po isInput (x :: xs) = .ok hs ↔ ∃ part rn rest, x.attr? "part" = some part ∧
      partNode po isInput part = .ok rn ∧ headersOf po isInput xs = .ok rest ∧ (part, rn) :: rest = hs := by
  rw [headersOf]
  cases x.attr? "part" with
  | none => simp
  | some part => cases h : partNode po isInput part <;> cases headersOf po isInput xs <;> simp [h]

theorem headersOf_spec (po : PortOp) (isInput : Bool) : ∀ (hn : List XNode) (hs : List (String × RNode)),
    headersOf po isInput hn = .ok hs →
    hs.map (·.1) = hn.filterMap (·.attr? "part") ∧ hs.length = hn.length ∧
    ∀ e ∈ hs, partOf po isInput (splitType e.1).1 = some e.2
  | [], _, h => by cases h; simp
  | x :: xs, _, h => by
    obtain ⟨part, rn, rest, hx, hp, hr, rfl⟩ := headersOf_cons_eq_ok.mp h
    obtain ⟨h1, h2, h3⟩ := headersOf_spec po isInput xs rest hr
    exact ⟨by simp [hx, h1], by simp [h2], List.forall_mem_cons.mpr ⟨partNode_ok po isInput part rn hp, h3⟩⟩

/-- header entries: exactly one per `soap:header` child of the direction, in document order, named by its `part`
    attribute, each holding the node of that part of the direction's own message -/
theorem c05_headers_are_the_bound_parts (n : XNode) (po : PortOp) (isInput : Bool) (env : Envelope)
    (h : envelopeOf n po isInput = .ok env) :
    env.headers.map (·.1) = (elemKidsTagged n "header").filterMap (·.attr? "part") ∧
    env.headers.length = (elemKidsTagged n "header").length ∧
    ∀ e ∈ env.headers, partOf po isInput (splitType e.1).1 = some e.2 := by
  exact headersOf_spec po isInput _ _ (envelopeOf_eq_ok.mp h).2

/-! non-vacuity: an output direction with a header part `Ack` that sorts before the body part `parameters` -/
example :
    let ack : RNode := ⟨.element ⟨"Ack", .unsupported⟩, none⟩
    let resp : RNode := ⟨.element ⟨"Resp", .unsupported⟩, none⟩
    let out : Msg := { xmlName := "Out", parts := [("Ack", (ack, none)), ("parameters", (resp, none))] }
    let po : PortOp := { input := { xmlName := "In", parts := [("parameters", (ack, none))] }, output := some out }
    let n : XNode := .elem "output" [] [] none [
      .elem "header" [⟨"message", none, "tns:Out"⟩, ⟨"part", none, "Ack"⟩, ⟨"use", none, "literal"⟩] [] none [],
      .elem "body" [⟨"use", none, "literal"⟩] [] none []]
    (envelopeOf n po false).toOption.map (fun e => (e.body.rtype.xmlName, e.headers.map (·.1))) = some (some "Resp", ["Ack"]) := by
  decide

end ZeepVerif.Props.C05All
