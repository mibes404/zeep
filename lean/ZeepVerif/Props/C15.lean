/-
C15 — output-sink failures are reported: no panic, no false success.
-/
import ZeepVerif.Model.Sink
import ZeepVerif.Generated.Sites

namespace ZeepVerif.Props.C15
open ZeepVerif.Model.Sink ZeepVerif.Generated

/-- every `write!`/`writeln!` of the generator propagates its result with `?`; the only other use is the
    value of `impl Display for RustFieldType::fmt`, which writes into a `Formatter`, not into the sink, and
    returns the result to its caller -/
theorem c15_sites :
    Sites.writeSites.all (fun s => s.2.2 == "propagate" || (s.2.2 == "returned" && s.2.1 == "fmt")) = true := by
  decide +kernel

/-- there are write sites to speak about (the inventory is not empty) -/
theorem c15_sites_nonempty : Sites.writeSites.length ≥ 50 := by decide

/-- one direction (success ⇒ no new failing `write` seen), the one `c15_no_false_success` needs -/
theorem writeAll_ok_no_new_failure (sink : Sink) (fuel : Nat) (buf : List Char) (st : St)
    (h : (writeAll sink fuel buf st).1 = true) : (writeAll sink fuel buf st).2.sawFailure = st.sawFailure := by
  fun_induction writeAll sink fuel buf st with
  | case1 | case3 | case6 => cases h
  | case2 => rfl
  | case4 _ _ _ _ _ _ _ _ ih | case5 _ _ _ _ _ ih => exact ih h

/-- the central statement: when all sites propagate, a run that reports success saw no failing `write`
    — whatever the sink does, at whatever call index, with whatever error; and it never panics -/
theorem c15_no_false_success (sink : Sink) (fuel : Nat) :
    ∀ (chunks : List (List Char × Handling)) (st : St),
      (∀ c ∈ chunks, c.2 = Handling.propagate) →
      ((run sink fuel chunks st).1 ≠ Outcome.panic) ∧
      ((run sink fuel chunks st).1 = Outcome.ok → (run sink fuel chunks st).2.sawFailure = st.sawFailure) := by
  intro chunks st hall
  fun_induction run sink fuel chunks st with
  | case1 => exact ⟨nofun, fun _ => rfl⟩
  | case2 buf h rest st st' hw ih =>
    have hst := writeAll_ok_no_new_failure sink fuel buf st
    rw [hw] at hst
    obtain ⟨h1, h2⟩ := ih fun c hc => hall c (List.mem_cons_of_mem _ hc)
    exact ⟨h1, fun hok => (h2 hok).trans (hst rfl)⟩
  | case3 => exact ⟨nofun, nofun⟩
  | case4 | case5 => cases hall _ List.mem_cons_self

/-- a failing `write` (an error, or `Ok(0)`) at any point makes the run report an I/O error -/
theorem c15_failure_reported (sink : Sink) (fuel : Nat) (chunks : List (List Char × Handling))
    (hall : ∀ c ∈ chunks, c.2 = Handling.propagate)
    (hfail : (run sink fuel chunks {}).2.sawFailure = true) :
    (run sink fuel chunks {}).1 = Outcome.ioErr := by
  have ⟨hnp, hok⟩ := c15_no_false_success sink fuel chunks {} hall
  cases h : (run sink fuel chunks {}).1 with
  | ok => have := hok h; simp [hfail] at this
  | ioErr => rfl
  | panic => exact absurd h hnp

/-- a sink that accepts only part of each buffer (at least one byte per call) still receives every byte,
    in order: `write_all` completes and the collected bytes are the old ones followed by the buffer -/
theorem c15_writeAll_short (sink : Sink) (hpos : ∀ k len, ∃ n, 1 ≤ n ∧ sink k len = .accept n)
    (fuel : Nat) (buf : List Char) (st : St) (h : buf.length < fuel) :
    (writeAll sink fuel buf st).1 = true ∧ (writeAll sink fuel buf st).2.collected = st.collected ++ buf := by
  fun_induction writeAll sink fuel buf st with
  | case1 => omega
  | case2 => simp
  | case4 fuel buf st hne n hn _ k ih =>
    -- at least one byte goes, so the rest is shorter
    have hk : 0 < k := Nat.lt_min.mpr ⟨Nat.pos_of_ne_zero hn, List.length_pos_iff.mpr hne⟩
    obtain ⟨h1, h2⟩ := ih (by rw [List.length_drop]; omega)
    exact ⟨h1, by rw [h2, List.append_assoc, List.take_append_drop]⟩
  | case3 _ buf st _ hs | case5 _ buf st _ hs | case6 _ buf st _ hs =>
    obtain ⟨n, hn, e⟩ := hpos st.calls buf.length
    cases hs.symm.trans e <;> omega

/-- the whole output through a short-writing sink: success, and byte-identical to the concatenation of
    the chunks (what an unconstrained run collects) -/
theorem c15_short_complete (sink : Sink) (hpos : ∀ k len, ∃ n, 1 ≤ n ∧ sink k len = .accept n) (fuel : Nat) :
    ∀ (chunks : List (List Char × Handling)) (st : St), (∀ c ∈ chunks, c.1.length < fuel) →
      (run sink fuel chunks st).1 = Outcome.ok ∧
      (run sink fuel chunks st).2.collected = st.collected ++ (chunks.map (·.1)).flatten := by
  intro chunks st hl
  fun_induction run sink fuel chunks st with
  | case1 => simp
  | case2 buf h rest st st' hw ih =>
    have h2 := (c15_writeAll_short sink hpos fuel buf st (hl (buf, h) List.mem_cons_self)).2
    rw [hw] at h2
    obtain ⟨i1, i2⟩ := ih fun c hc => hl c (List.mem_cons_of_mem _ hc)
    exact ⟨i1, by rw [i2, h2]; simp [List.append_assoc]⟩
  | case3 buf _ st _ hw | case4 buf _ st _ hw | case5 buf _ st _ hw =>
    -- `write_all` into such a sink does not fail
    have h1 := (c15_writeAll_short sink hpos fuel buf st (hl _ List.mem_cons_self)).1
    rw [hw] at h1
    cases h1

/-- why `?` matters: with one site that unwraps, the same failing sink makes the run panic; with one that
    discards, it reports success although bytes were lost -/
example : (run (fun k _ => if k = 1 then .fail else .accept 100) 10
    [(['a'], .propagate), (['b'], .unwrap), (['c'], .propagate)] {}).1 = Outcome.panic := by decide
example : (run (fun k _ => if k = 1 then .fail else .accept 100) 10
    [(['a'], .propagate), (['b'], .discard), (['c'], .propagate)] {}).1 = Outcome.ok := by decide
example : (run (fun k _ => if k = 1 then .fail else .accept 100) 10
    [(['a'], .propagate), (['b'], .propagate), (['c'], .propagate)] {}).1 = Outcome.ioErr := by decide

end ZeepVerif.Props.C15
