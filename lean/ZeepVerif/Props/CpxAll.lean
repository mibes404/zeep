/-
The struct description `ComplexProps::try_from_node` returns, for every input: name and member list, as a left fold over the
type's element children (C02 members, C08 derived members).
-/
import ZeepVerif.Props.C08All

namespace ZeepVerif.Props.CpxAll
open ZeepVerif.Model ZeepVerif.Lemmas.Keeps Std.Do ZeepVerif.Props.C02All ZeepVerif.Props.C08All ZeepVerif.Lemmas.NodeSteps

set_option mvcgen.warning false

/-- what one child of a `complexType` does to the member list read so far -/
def StepOK (anc : List XNode) (n : XNode) (fs fs' : List Field) : Prop :=
  if n.tag = "complexContent" then
    ∃ (ext : List Field) (blocks : List (List Field)),
      (match n.kids.find? (fun k => k.isElem && k.tag == "extension") with
        | none => ext = []
        | some e => Derived e n anc ext) ∧
      fs' = ext ++ blocks.flatten ∧ blocks.length = (seqKids n.elemKids).length ∧
      ∀ b ∈ blocks, Matches (memberSites n anc) b
  else if n.tag = "sequence" then Matches (memberSites n anc) fs'
  else if n.tag = "attribute" then ∃ f, FieldOf n anc f ∧ fs' = fs ++ [f]
  else fs' = fs

inductive FoldOK (anc : List XNode) : List XNode → List Field → Prop
  | nil : FoldOK anc [] []
  | snoc {p n fs fs'} : FoldOK anc p fs → StepOK anc n fs fs' → FoldOK anc (p ++ [n]) fs'

def nameOf (node : XNode) (anc : List XNode) : Option String :=
  match node.attr? "name" with
  | some n => some n
  | none => (anc.head?).bind (·.attr? "name")

theorem cpxStep_spec (node : XNode) (ctx : Ctx) (fuel : Nat) (name : String) (r : CProps) (n : XNode) :
    Returns (cpxStep name { ctx with ancestors := node :: ctx.ancestors } fuel r n) fun r' =>
      (r.xmlName = name → r'.xmlName = name) ∧ StepOK (node :: ctx.ancestors) n r.fields r'.fields := by
  unfold cpxStep StepOK
  split
  · exact Returns.bind (extension_spec n _ fuel) fun ext hext => (seqBlocks_spec n _ fuel n.elemKids ext).bind fun fs ⟨blocks, hb, hl, hm⟩ =>
      Returns.getDoc.bind fun _ _ => Returns.pure ⟨fun _ => rfl, ext, blocks, hext, hb, hl, hm⟩
  split
  · exact (sequence_spec n _ [] fuel).bind fun fs ⟨fs', h, hm⟩ => Returns.getDoc.bind fun _ _ =>
      Returns.pure ⟨fun _ => rfl, by rw [show fs = fs' by simpa using h]; exact hm⟩
  split
  · exact Returns.bind (field_spec n _ fuel) fun f hf => Returns.pure ⟨id, f, hf, rfl⟩
  · exact Returns.pure ⟨id, rfl⟩

theorem complex_spec (node : XNode) (ctx : Ctx) (fuel : Nat) :
    ⦃fun _ => ⌜True⌝⦄ complexFromNode node ctx fuel
    ⦃post⟨fun r _ => ⌜nameOf node ctx.ancestors = some r.xmlName ∧ FoldOK (node :: ctx.ancestors) node.elemKids r.fields⌝,
          fun _ _ => ⌜True⌝⟩⦄ := by
  cases fuel with
  | zero => exact Returns.throw _
  | succ fuel =>
    rw [complexFromNode_succ]
    -- the fold, from any prefix `p` of the children already read
    have hfold : ∀ (name : String) (kids p : List XNode) (r : CProps), r.xmlName = name → FoldOK (node :: ctx.ancestors) p r.fields →
        Returns (kids.foldlM (cpxStep name { ctx with ancestors := node :: ctx.ancestors } fuel) r) fun r' =>
          r'.xmlName = name ∧ FoldOK (node :: ctx.ancestors) (p ++ kids) r'.fields := by
      intro name kids
      induction kids with
      | nil => exact fun p r hn hp => Returns.pure ⟨hn, by simpa using hp⟩
      | cons k ks ih =>
        intro p r hn hp
        rw [List.foldlM_cons]
        exact (cpxStep_spec node ctx fuel name r k).bind fun r1 ⟨h1, hs⟩ =>
          (ih (p ++ [k]) r1 (h1 hn) (.snoc hp hs)).mono fun r' h => by simpa using h
    exact (Returns.bind (Q := fun _ => True) (keeps_true _) fun _ _ =>
      (Returns.liftOpt _ _).bind fun name hname => Returns.getDoc.bind fun d _ =>
        (hfold name node.elemKids [] _ rfl .nil).mono fun r ⟨hn, hf⟩ => ⟨by rw [hn]; exact hname, hf⟩)

/-! `FoldOK`, by prefixes of the children read, is the form the loop invariant has; `FoldFrom`, from any start list and by `cons`,
    can be taken apart from the front, so the statements use it. -/

inductive FoldFrom (anc : List XNode) : List XNode → List Field → List Field → Prop
  | nil {fs} : FoldFrom anc [] fs fs
  | cons {n ns fs fs1 fs'} : StepOK anc n fs fs1 → FoldFrom anc ns fs1 fs' → FoldFrom anc (n :: ns) fs fs'

theorem foldOK_from {anc p fs} (h : FoldOK anc p fs) :
    ∀ q fs', FoldFrom anc q fs fs' → FoldFrom anc (p ++ q) [] fs' := by
  induction h with
  | nil => intro q fs' hq; simpa using hq
  | snoc hp hstep ih =>
    intro q fs' hq
    have := ih (_ :: q) fs' (FoldFrom.cons hstep hq)
    simpa [List.append_assoc] using this

theorem foldFrom_of_foldOK {anc p fs} (h : FoldOK anc p fs) : FoldFrom anc p [] fs := by
  simpa using foldOK_from h [] fs FoldFrom.nil

def Other (n : XNode) : Prop := n.tag ≠ "complexContent" ∧ n.tag ≠ "sequence" ∧ n.tag ≠ "attribute"

theorem FoldFrom.others {anc p fs fs'} (ho : ∀ n ∈ p, Other n) (h : FoldFrom anc p fs fs') : fs' = fs := by
  induction h with
  | nil => rfl
  | cons hstep _ ih =>
    have o := ho _ (List.mem_cons_self ..)
    have := ih (fun n hn => ho n (by simp [hn]))
    simp [StepOK, o.1, o.2.1, o.2.2] at hstep
    rw [this, hstep]

theorem FoldFrom.attrs {anc p fs fs'} (ha : ∀ n ∈ p, n.tag = "attribute") (h : FoldFrom anc p fs fs') :
    ∃ al, fs' = fs ++ al ∧ MatchesA anc p al := by
  induction h with
  | nil => exact ⟨[], by simp, trivial⟩
  | cons hstep _ ih =>
    have e := ha _ (List.mem_cons_self ..)
    obtain ⟨al, h1, h2⟩ := ih (fun n hn => ha n (by simp [hn]))
    simp only [StepOK, e] at hstep
    obtain ⟨f, hf, hfs⟩ := hstep
    exact ⟨f :: al, by rw [h1, hfs]; simp, ⟨hf, h2⟩⟩

theorem FoldFrom.split {anc p q fs fs'} (h : FoldFrom anc (p ++ q) fs fs') :
    ∃ m, FoldFrom anc p fs m ∧ FoldFrom anc q m fs' := by
  induction p generalizing fs with
  | nil => exact ⟨fs, FoldFrom.nil, by simpa using h⟩
  | cons x xs ih =>
    cases h with
    | cons hstep hrest =>
      obtain ⟨m, h1, h2⟩ := ih hrest
      exact ⟨m, FoldFrom.cons hstep h1, h2⟩

/-- C02, a complex type: the struct description carries the type's name (its own `name`, else the enclosing element's) and its
    member list is the left fold of `StepOK` over the type's element children in document order -/
theorem c02_complex_type_all_inputs (node : XNode) (ctx : Ctx) (fuel : Nat) (d : Doc) (r : CProps)
    (h : (runNM (complexFromNode node ctx fuel) d).1 = .ok r) :
    nameOf node ctx.ancestors = some r.xmlName ∧ FoldFrom (node :: ctx.ancestors) node.elemKids [] r.fields := by
  have hh := Returns.run (complex_spec node ctx fuel) h
  exact ⟨hh.1, foldFrom_of_foldOK hh.2⟩

/-- the usual shape — (annotation …) sequence attribute* — gives exactly one member per member site of the sequence, in order, then
    exactly one per attribute, in order; nothing else -/
theorem c02_plain_type_members (node : XNode) (ctx : Ctx) (fuel : Nat) (d : Doc) (r : CProps)
    (h : (runNM (complexFromNode node ctx fuel) d).1 = .ok r)
    (pre attrs : List XNode) (seq : XNode) (hk : node.elemKids = pre ++ seq :: attrs)
    (hpre : ∀ n ∈ pre, Other n) (hseq : seq.tag = "sequence") (hattrs : ∀ n ∈ attrs, n.tag = "attribute") :
    ∃ b al, r.fields = b ++ al ∧ Matches (memberSites seq (node :: ctx.ancestors)) b ∧ MatchesA (node :: ctx.ancestors) attrs al ∧
      r.fields.length = (memberSites seq (node :: ctx.ancestors)).length + attrs.length := by
  have hf := (c02_complex_type_all_inputs node ctx fuel d r h).2
  rw [hk] at hf
  obtain ⟨m, h1, h2⟩ := FoldFrom.split hf
  have hm := FoldFrom.others hpre h1
  subst hm
  cases h2 with
  | cons hstep hrest =>
    simp [StepOK, hseq] at hstep
    obtain ⟨al, e, ha⟩ := FoldFrom.attrs hattrs hrest
    refine ⟨_, al, e, hstep, ha, ?_⟩
    rw [e, List.length_append, matches_length hstep, matchesA_length ha]

/-- a type defined by extension — (annotation …) complexContent/extension — has exactly the derived member list of `C08All` -/
theorem c08_derived_type_members (node : XNode) (ctx : Ctx) (fuel : Nat) (d : Doc) (r : CProps)
    (h : (runNM (complexFromNode node ctx fuel) d).1 = .ok r)
    (pre post : List XNode) (cc ext : XNode) (hk : node.elemKids = pre ++ cc :: post)
    (hpre : ∀ n ∈ pre, Other n) (hpost : ∀ n ∈ post, Other n) (hcc : cc.tag = "complexContent")
    (hext : cc.kids.find? (fun k => k.isElem && k.tag == "extension") = some ext)
    (hnoseq : seqKids cc.elemKids = []) :
    Derived ext cc (node :: ctx.ancestors) r.fields := by
  have hf := (c02_complex_type_all_inputs node ctx fuel d r h).2
  rw [hk] at hf
  obtain ⟨m, h1, h2⟩ := FoldFrom.split hf
  have hm := FoldFrom.others hpre h1
  subst hm
  cases h2 with
  | cons hstep hrest =>
    have := FoldFrom.others hpost hrest
    subst this
    simp only [StepOK, hcc, if_true, hext, hnoseq] at hstep
    obtain ⟨e, blocks, hd, hfs, hl, _⟩ := hstep
    have : blocks = [] := by simpa using hl
    subst this
    simpa [hfs] using hd

/-! non-vacuity: a type of the usual shape is read, and the hypotheses of `c02_plain_type_members` hold for it -/
def demoBase : XNode :=
  let nss : List (Option String × String) := [(some "xs", "http://www.w3.org/2001/XMLSchema"), (some "tns", "urn:demo")]
  let el (n t : String) : XNode := .elem "element" [⟨"name", none, n⟩, ⟨"type", none, t⟩] nss none []
  .elem "complexType" [⟨"name", none, "Base"⟩] nss none [
    .elem "annotation" [] nss none [],
    .elem "sequence" [] nss none [el "id" "xs:int", el "label" "xs:string"],
    .elem "attribute" [⟨"name", none, "code"⟩, ⟨"type", none, "xs:string"⟩] nss none []]

def demoRun : Option (String × List (String × Bool)) :=
  match (runNM (complexFromNode demoBase ⟨[], []⟩ 50) {}).1 with
  | .ok r => some (r.xmlName, r.fields.map (fun f => (f.xmlName, f.isAttribute)))
  | .error _ => none

example : demoRun = some ("Base", [("id", false), ("label", false), ("code", true)]) := by decide +kernel
example : demoBase.elemKids.map (·.tag) = ["annotation", "sequence", "attribute"] := by decide +kernel

end ZeepVerif.Props.CpxAll
