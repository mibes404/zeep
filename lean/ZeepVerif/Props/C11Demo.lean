/- Two small file sets on which the hypotheses of the file-set theorems are evaluated (`Props/C11Read`, whose namespace
   they are in); a file of their own because `C11All`, which `C11Read` imports, uses the cyclic one (as do `C09All`,
   `C10All`, `C13All`). -/
import ZeepVerif.Lemmas.ReadGraph

namespace ZeepVerif.Props.C11Read
open ZeepVerif.Model ZeepVerif.Lemmas.ReadGraph

/-! non-vacuity: a start file that imports a leaf file, derives a type from a base of the imported namespace, and
    imports the same file a second time (skipped) -/
def demoSet : List XFile :=
  let nssA : List (Option String × String) := [(some "xs", "http://www.w3.org/2001/XMLSchema"), (some "tns", "urn:a"), (some "b", "urn:b")]
  let nssB : List (Option String × String) := [(some "xs", "http://www.w3.org/2001/XMLSchema"), (some "tns", "urn:b")]
  let el (nss : List (Option String × String)) (n t : String) : XNode := .elem "element" [⟨"name", none, n⟩, ⟨"type", none, t⟩] nss none []
  [ { name := "a.xsd", urls := [],
      tops := some [.elem "schema" [⟨"targetNamespace", none, "urn:a"⟩] nssA none [
        .elem "import" [⟨"namespace", none, "urn:b"⟩, ⟨"schemaLocation", none, "b.xsd"⟩] nssA none [],
        .other,
        .elem "complexType" [⟨"name", none, "Derived"⟩] nssA none [
          .elem "complexContent" [] nssA none [.elem "extension" [⟨"base", none, "b:Base"⟩] nssA none [
            .elem "sequence" [] nssA none [el nssA "note" "xs:string"]]]],
        .elem "import" [⟨"namespace", none, "urn:b"⟩, ⟨"schemaLocation", none, "b.xsd"⟩] nssA none []]] },
    { name := "b.xsd", urls := [],
      tops := some [.elem "schema" [⟨"targetNamespace", none, "urn:b"⟩] nssB none [
        .elem "complexType" [⟨"name", none, "Base"⟩] nssB none [.elem "sequence" [] nssB none [el nssB "id" "xs:int"]]]] },
    { name := "unrelated.xsd", urls := [], tops := none } ]

/-- a cycle: `a.xsd` imports `b.xsd`, which imports `a.xsd` back and itself -/
def demoCycle : List XFile :=
  let nssA : List (Option String × String) := [(some "xs", "http://www.w3.org/2001/XMLSchema"), (some "tns", "urn:a"), (some "b", "urn:b")]
  let nssB : List (Option String × String) := [(some "xs", "http://www.w3.org/2001/XMLSchema"), (some "tns", "urn:b"), (some "a", "urn:a")]
  let el (nss : List (Option String × String)) (n t : String) : XNode := .elem "element" [⟨"name", none, n⟩, ⟨"type", none, t⟩] nss none []
  [ { name := "a.xsd", urls := [],
      tops := some [.elem "schema" [⟨"targetNamespace", none, "urn:a"⟩] nssA none [
        .elem "import" [⟨"namespace", none, "urn:b"⟩, ⟨"schemaLocation", none, "b.xsd"⟩] nssA none [],
        .elem "complexType" [⟨"name", none, "A"⟩] nssA none [.elem "sequence" [] nssA none [el nssA "b" "b:B"]]]] },
    { name := "b.xsd", urls := [],
      tops := some [.elem "schema" [⟨"targetNamespace", none, "urn:b"⟩] nssB none [
        .elem "import" [⟨"namespace", none, "urn:a"⟩, ⟨"schemaLocation", none, "a.xsd"⟩] nssB none [],
        .elem "import" [⟨"namespace", none, "urn:b"⟩, ⟨"schemaLocation", none, "b.xsd"⟩] nssB none [],
        .elem "complexType" [⟨"name", none, "B"⟩] nssB none [.elem "sequence" [] nssB none [el nssB "id" "xs:int"]]]] } ]

theorem demoCycle_read : ∃ r, readFileG (fileTable demoCycle) 5 "a.xsd" [] [] { processed := [] } = some r ∧
    readXml demoCycle "a.xsd" = .ok r.1 := by
  have hsome : (readFileG (fileTable demoCycle) 5 "a.xsd" [] [] { processed := [] }).isSome = true := by decide +kernel
  obtain ⟨r, hr⟩ := Option.isSome_iff_exists.mp hsome
  exact ⟨r, hr, readXml_graph demoCycle "a.xsd" 5 (by decide) r hr⟩

end ZeepVerif.Props.C11Read
