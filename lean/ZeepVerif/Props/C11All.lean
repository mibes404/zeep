/-
C11 for every file table: no file is read twice — a file's components are read only by the call of `read_xml_internal` that
marks it, and a marked file is never entered again — for any import graph (diamonds, self imports, cycles) and any fuel; and
files that are not reachable do not matter. (Termination: `Props/C13All`.)
-/
import ZeepVerif.Lemmas.KeepsFile
import ZeepVerif.Lemmas.Irrelevant
import ZeepVerif.Props.C11Demo

namespace ZeepVerif.Props.C11All
open ZeepVerif.Model ZeepVerif.Lemmas.KeepsFile

/-- the processed-file list that `read_xml` leaves behind holds no name twice -/
theorem c11_read_once_all_inputs (files : String → Option XFile) (start : String) (flags : RS) (fuel : Nat) (d : Doc)
    (h : (readXmlOn files start flags fuel).1 = .ok d) :
    (readXmlOn files start flags fuel).2.processed.Nodup :=
  (readXmlOn_of_triple ((file_marks files (J := fun st => st.processed.Nodup) (fun _ _ h hn => List.nodup_cons.mpr ⟨hn, h⟩) fuel).1
    start [] []) flags List.nodup_nil).1 d h

open ZeepVerif.Lemmas.Irrelevant in
/-- files that are not reachable never matter: if two tables agree on a set of names that contains the start file and is closed
    under "schemaLocation values occurring anywhere in a file registered under a name of the set", `read_xml` gives the same
    result on both — document or error, and processed-file list — for every fuel -/
theorem c11_unreachable_irrelevant_all_inputs (files files' : String → Option XFile) (S : List String) (start : String)
    (hstart : start ∈ S) (hclosed : Closed files S) (hagree : ∀ n ∈ S, files n = files' n) (flags : RS) (fuel : Nat) :
    readXmlOn files start flags fuel = readXmlOn files' start flags fuel := by
  simp only [readXmlOn]
  rw [(agree files files' S hclosed hagree fuel).int start [] [] hstart]

/-- the same for lists of registered files -/
theorem c11_unreachable_irrelevant_lists (fs fs' : List XFile) (S : List String) (start : String) (hstart : start ∈ S)
    (hclosed : Lemmas.Irrelevant.Closed (fileTable fs) S) (hagree : ∀ n ∈ S, fileTable fs n = fileTable fs' n) (fuel : Nat) :
    readXml fs start fuel = readXml fs' start fuel := by
  simp only [readXml]
  rw [c11_unreachable_irrelevant_all_inputs (fileTable fs) (fileTable fs') S start hstart hclosed hagree]

def closedB (fs : List XFile) (S : List String) : Bool :=
  S.all fun n => match fileTable fs n with
    | some f => (match f.tops with
      | some tops => tops.all (fun t => (Lemmas.Irrelevant.deepLocs t).all (fun l => S.contains l))
      | none => true)
    | none => true

theorem closedB_sound (fs : List XFile) (S : List String) (h : closedB fs S = true) : Lemmas.Irrelevant.Closed (fileTable fs) S := by
  intro n hn f tops hf ht top htop l hl
  simp only [closedB, List.all_eq_true] at h
  have := h n hn
  simp only [hf, ht, List.all_eq_true] at this
  simpa using this top htop l hl

/-! non-vacuity: the cyclic set a.xsd ⇄ b.xsd of `Props/C11Demo` is closed; a third, unreachable file changes nothing -/
example : closedB C11Read.demoCycle ["a.xsd", "b.xsd"] = true := by decide
example : readXml (C11Read.demoCycle ++ [{ name := "zz.xsd", urls := [], tops := none }]) "a.xsd" = readXml C11Read.demoCycle "a.xsd" := by
  symm
  apply c11_unreachable_irrelevant_lists _ _ ["a.xsd", "b.xsd"] "a.xsd" (by simp) (closedB_sound _ _ (by decide))
  intro n hn
  simp only [List.mem_cons, List.mem_nil_iff, or_false] at hn
  rcases hn with rfl | rfl <;> rfl

end ZeepVerif.Props.C11All
