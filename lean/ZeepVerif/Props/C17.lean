/-
C17 — CLI: result depends on file contents only; failures keep the old output.
Theorems about the interpreter of `main`'s effect list as extracted from zeep/src/main.rs on every run.
-/
import ZeepVerif.Lemmas.StepWords

namespace ZeepVerif.Props.C17
open ZeepVerif.Model.Cli ZeepVerif.Generated

theorem c17_all_steps_modelled : cliSteps.all (fun s => match s with | .other _ => false | _ => true) = true := by
  simp [cliSteps, Cli.cliSteps]

/-- Exit status and bytes at the output path after a run: the path is not touched before the document stands in memory;
    from `File::create` on it holds nothing, then the text. `simp` evaluates the interpreter over the extracted list
    (`parseStep`: by `Lemmas/StepWords`) to a nested `if`; `c17_failure_preserves`, `c17_success_exact` and `c17_success_when_all_ok`
    are read off it. -/
theorem main_spec (env : Env) (old : Option (List Char)) :
    (main env old).1 =
      (if !env.inputOk then .failure "read-input" else if !(env.readOk && env.writeOk) then .failure "generate"
       else if !env.createOk then .failure "create-output" else if !env.fileWriteOk then .failure "write-output"
       else .success) ∧
    (main env old).2.out =
      (if env.inputOk && env.readOk && env.writeOk && env.createOk then some (if env.fileWriteOk then env.text else [])
       else old) := by
  obtain ⟨i, r, w, c, f, t⟩ := env
  simp [main, cliSteps, Cli.cliSteps, run]
  cases i <;> cases r <;> cases w <;> cases c <;> cases f <;> simp

/-- when generation fails — the input cannot be read, or reading or writing the document fails — the tool
    exits with a non-zero status and whatever was at the output path is still there, byte for byte
    (also when there was nothing) -/
theorem c17_failure_preserves (env : Env) (old : Option (List Char))
    (h : env.inputOk = false ∨ env.readOk = false ∨ env.writeOk = false) :
    (∃ stage, (main env old).1 = .failure stage) ∧ (main env old).2.out = old := by
  rw [(main_spec env old).1, (main_spec env old).2]
  rcases h with h | h | h <;> simp [h] <;> split <;> simp

/-- on success the output path holds exactly the text the library emitted: nothing of a previous,
    longer file survives, nothing is prepended or appended -/
theorem c17_success_exact (env : Env) (old : Option (List Char)) (h : (main env old).1 = .success) :
    (main env old).2.out = some env.text := by
  rw [(main_spec env old).1] at h
  rw [(main_spec env old).2]
  repeat' split at h
  all_goals simp_all

/-- and the tool succeeds whenever every stage does -/
theorem c17_success_when_all_ok (t : List Char) (old : Option (List Char)) :
    (main ⟨true, true, true, true, true, t⟩ old).1 = .success := by
  simp [(main_spec _ old).1]

/-- the default output path is the input path with the extension replaced by `rs`; a bare file name is
    looked up in the current directory; only `.xsd` siblings are registered -/
theorem c17_paths : cliSteps.contains .withExtensionRs = true ∧ Cli.emptyParentIsCwd = true ∧ Cli.siblingsOnlyXsd = true := by
  simp [cliSteps, Cli.cliSteps, Cli.emptyParentIsCwd, Cli.siblingsOnlyXsd]

/-! non-vacuity, and what the theorem excludes: an effect list that creates the file first loses the old file -/
example : (run ⟨true, false, true, true, true, ['x']⟩ [.readInput, .abortOnError, .create, .abortOnError, .readXml, .abortOnError] { out := some ['o', 'l', 'd'] }).2.out = some [] := by
  decide
example : (main ⟨true, false, true, true, true, ['x']⟩ (some ['o', 'l', 'd'])).2.out = some ['o', 'l', 'd'] := by
  simp [(main_spec _ _).2]

end ZeepVerif.Props.C17
