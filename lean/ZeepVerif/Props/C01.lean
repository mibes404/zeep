/-
C01 — emitted Rust compiles against the documented dependencies only.
rustc decides acceptance (it is consulted on every generated program); the theorems are the spelling agreements the
property names: a type is referred to by exactly the name it is defined under.
-/
import ZeepVerif.Model.Emit
import ZeepVerif.Lemmas.SplitType

namespace ZeepVerif.Props.C01
open ZeepVerif.Model

theorem c01_definition_spelling (p : CProps) :
    ("pub struct " ++ xmlNameToRustName p.xmlName ++ " {\n") ∈ complexPrefix p := by
  simp [complexPrefix, complexHead]

/-- use site: a reference `pfx:l` with `pfx` bound is rendered with the same function. `hcolon` holds of every NCName. -/
theorem c01_reference_spelling (d : Doc) (pfx l : String) (n : Ns) (hp : lookupNs d pfx = some n)
    (hcolon : ':' ∉ pfx.toList) :
    (asRustType d (pfx ++ ":" ++ l)).render = n.rustModName ++ "::" ++ xmlNameToRustName l := by
  rw [Lemmas.SplitType.asRustType_of_bound (Lemmas.SplitType.splitType_prefixed pfx l hcolon) hp, FType.render]

/-- the module a namespace's components are emitted in is the module references to it are qualified
    with: both are the `rustModName` of the one `Ns` record (created as `mod_` ++ abbreviation) -/
theorem c01_module_spelling (url : String) (existing : List Ns) :
    (mkNs url existing).rustModName = "mod_" ++ (mkNs url existing).abbreviation := by
  simp only [mkNs]

/-- envelope types are defined and referred to under the same names: the binding writer defines
    `{Pascal op}InputEnvelope` / `…OutputEnvelope`, the service writer's method signature uses them -/
theorem c01_envelope_spelling (opName : String) (op : BindOp) (o : Envelope) (h : op.output = some o) :
    (writeAsyncSoapCall opName op).head? = some ("pub async fn " ++ asFieldName opName ++ "(&self, req: " ++
      (xmlNameToRustName opName ++ "InputEnvelope") ++ ") -> error::SoapResult<" ++ (xmlNameToRustName opName ++ "OutputEnvelope") ++ "> {\n") := by
  simp [writeAsyncSoapCall, h, String.append_assoc]

end ZeepVerif.Props.C01
