/-
C02 for every input (any tree, any document state, any fuel), at the level of a content model: what
`import_sequence_node_fields` returns, from everything `Field::try_from_node` returns relative to its lookups (`field_full`).
-/
import ZeepVerif.Lemmas.Returns
import ZeepVerif.Lemmas.NodeSteps

namespace ZeepVerif.Props.C02All
open ZeepVerif.Model ZeepVerif.Lemmas.Keeps Std.Do

set_option mvcgen.warning false

def FieldOf (node : XNode) (anc : List XNode) (f : Field) : Prop :=
  (node.tag = "any" → f.isAny = true ∧ f.xmlName = "body" ∧ f.isOptional = true ∧ f.isVec = false) ∧
  (node.tag ≠ "any" →
    f.isAny = false ∧ f.isOptional = (occurrence node anc).isOptional ∧ f.isVec = (occurrence node anc).isVec ∧
    f.isAttribute = (occurrence node anc).isAttribute ∧ f.isChoice = (occurrence node anc).isChoice ∧
    (node.attr? "ref" = none → node.attr? "name" = some f.xmlName ∧ f.rustName = asFieldName f.xmlName))

/-- the symbol space a `ref=` is looked up in -/
def refKind (node : XNode) : Kind := if node.tag == "element" then Kind.element else Kind.any

/-- one constructor per returning path of `Field::try_from_node`: `o` are the occurrence flags of the site, `d` is the document state
    the member is read in (after the switch to its `targetNamespace`, if it has one), `D` what is known of the answer to a lookup -/
inductive FieldFull (D : String → Option Ns → Kind → RNode → Prop) (node : XNode) (ctx : Ctx) (o : Occ) : Field → Prop
  | any : (node.tag == "any") = true →
      FieldFull D node ctx o
        { xmlName := "body", rustName := "body", rustType := .string, isOptional := true, isVec := false, tns := none,
          isAttribute := false, isChoice := false, isAny := true }
  | xml {r} : ¬(node.tag == "any") = true → node.attr? "ref" = some r → r.startsWith "xml" = true →
      FieldFull D node ctx o
        { xmlName := (splitType r).1, rustName := asFieldName (splitType r).1, rustType := .string, isOptional := o.isOptional,
          isVec := o.isVec, tns := none, isAttribute := o.isAttribute, isChoice := o.isChoice, isAny := false }
  | ref (d : Doc) {r x} : ¬(node.tag == "any") = true → node.attr? "ref" = some r → ¬r.startsWith "xml" = true →
      (if (refKind node == Kind.element) = true then
        globalComponentExists ctx d (splitType r).1 ((splitType r).2.bind (lookupNs d)) (refKind node) = true ∧ x = (splitType r).1
       else ∃ rn, D (splitType r).1 ((splitType r).2.bind (lookupNs d)) (refKind node) rn ∧ rn.rtype.xmlName = some x) →
      FieldFull D node ctx o
        { xmlName := x, rustName := asFieldName (splitType r).1,
          rustType := .other (xmlNameToRustName x) (((splitType r).2.bind (lookupNs d)).map (·.rustModName)),
          isOptional := o.isOptional, isVec := o.isVec, tns := (splitType r).2.bind (lookupNs d), isAttribute := o.isAttribute,
          isChoice := o.isChoice, isAny := false }
  | named (d : Doc) {x} : ¬(node.tag == "any") = true → node.attr? "ref" = none → node.attr? "name" = some x →
      FieldFull D node ctx o
        { xmlName := x, rustName := asFieldName x,
          rustType := (match node.attr? "type" with
            | some t => asRustType d t
            | none => .string),
          isOptional := o.isOptional, isVec := o.isVec, tns := d.current, isAttribute := o.isAttribute, isChoice := o.isChoice,
          isAny := false }

theorem field_full {D : Ctx → String → Option Ns → Kind → RNode → Prop}
    (hfnd : ∀ c x ns k fuel, Returns (findNodeByXmlName c x ns k fuel) (fun r => ∀ rn, r = some rn → D c x ns k rn))
    (node : XNode) (ctx : Ctx) : ∀ fuel, Returns (fieldFromNode node ctx fuel) (FieldFull (D ctx) node ctx (occurrence node ctx.ancestors))
  | 0 => Returns.throw _
  | fuel + 1 => by
    have hfnd := fun c x ns k => hfnd c x ns k fuel
    mvcgen -trivial [fieldFromNode, switchToTargetNamespace, modifyDoc, getDoc, liftOpt, hfnd]
    all_goals clear hfnd
    -- every path occurs twice: the first `h_1`/`h_2` are the arms of `if let some tns := node.attr? "targetNamespace"`
    case vc1.isFalse.h_1.isTrue | vc6.isFalse.h_2.isTrue => exact .any ‹_›
    case vc2.isFalse.h_1.isFalse.h_1.isTrue | vc7.isFalse.h_2.isFalse.h_1.isTrue => exact .xml ‹_› ‹_› ‹_›
    case vc3.isFalse.h_1.isFalse.h_1.isFalse.isTrue.isFalse | vc8.isFalse.h_2.isFalse.h_1.isFalse.isTrue.isFalse =>
      exact .ref _ ‹_› ‹_› ‹_› (by rw [if_pos ‹_›]; exact ⟨Bool.not_not_eq.mp ‹_›, rfl⟩)
    case vc4.isFalse.h_1.isFalse.h_1.isFalse.isFalse.success.h_1.h_1 | vc9.isFalse.h_2.isFalse.h_1.isFalse.isFalse.success.h_1.h_1 =>
      exact .ref _ ‹_› ‹_› ‹_› (by rw [if_neg ‹_›]; exact ⟨_, ‹∀ rn, _ = some rn → _› _ ‹_›, ‹_›⟩)
    case vc5.isFalse.h_1.isFalse.h_2.h_1 | vc10.isFalse.h_2.isFalse.h_2.h_1 => exact .named _ ‹_› ‹_› ‹_›

theorem FieldFull.fieldOf {D node ctx f} (h : FieldFull D node ctx (occurrence node ctx.ancestors) f) : FieldOf node ctx.ancestors f := by
  have no {p : Prop} {hn : ¬(node.tag == "any") = true} (ht : node.tag = "any") : p := absurd (by simp [ht]) hn
  cases h with
  | any h => exact ⟨fun _ => ⟨rfl, rfl, rfl, rfl⟩, fun hn => absurd (by simpa using h) hn⟩
  | xml hn hr _ => exact ⟨no (hn := hn), fun _ => ⟨rfl, rfl, rfl, rfl, rfl, fun h => by rw [hr] at h; cases h⟩⟩
  | ref _ hn hr _ _ => exact ⟨no (hn := hn), fun _ => ⟨rfl, rfl, rfl, rfl, rfl, fun h => by rw [hr] at h; cases h⟩⟩
  | named _ hn _ hx => exact ⟨no (hn := hn), fun _ => ⟨rfl, rfl, rfl, rfl, rfl, fun _ => ⟨hx, by simp only⟩⟩⟩

theorem field_spec (node : XNode) (ctx : Ctx) (fuel : Nat) :
    ⦃fun _ => ⌜True⌝⦄ fieldFromNode node ctx fuel ⦃post⟨fun f _ => ⌜FieldOf node ctx.ancestors f⌝, fun _ _ => ⌜True⌝⟩⦄ :=
  (field_full (D := fun _ _ _ _ _ => True) (fun _ _ _ _ _ => Returns.mono (Q := fun _ => True) (keeps_true _) (fun _ _ _ _ => trivial))
    node ctx fuel).mono (fun _ => FieldFull.fieldOf)

def Matches : List (XNode × List XNode) → List Field → Prop
  | [], [] => True
  | s :: ss, f :: fs => FieldOf s.1 s.2 f ∧ Matches ss fs
  | _, _ => False

theorem matches_length : ∀ {ss : List (XNode × List XNode)} {fs : List Field}, Matches ss fs → fs.length = ss.length
  | [], [], _ => rfl
  | _ :: _, _ :: _, h => congrArg (· + 1) (matches_length h.2)
  | [], _ :: _, h => h.elim
  | _ :: _, [], h => h.elim

theorem sequence_spec (node : XNode) (ctx : Ctx) (acc : List Field) (fuel : Nat) :
    Returns (importSequence node ctx acc fuel) fun r => ∃ fs, r = acc ++ fs ∧ Matches (memberSites node ctx.ancestors) fs := by
  cases fuel with
  | zero => exact Returns.throw _
  | succ fuel =>
    rw [Lemmas.NodeSteps.importSequence_succ]
    generalize memberSites node ctx.ancestors = sites
    induction sites generalizing acc with
    | nil => exact Returns.pure ⟨[], by simp, trivial⟩
    | cons s ss ih =>
      rw [List.foldlM_cons]
      exact (Returns.map _ (field_spec s.1 { ctx with ancestors := s.2 } fuel)).bind fun acc' ⟨f, hf, hacc⟩ =>
        (ih acc').mono fun r ⟨fs, hr, hm⟩ => ⟨f :: fs, by rw [hr, hacc, List.append_assoc]; rfl, hf, hm⟩

/-- an `.ok` result of `import_sequence_node_fields` is the accumulator followed by exactly one field per member site
    (`memberSites`: nested sequences and choices flattened, attribute declarations and non-elements skipped) in document order,
    each as `FieldOf` says of its site (occurrence flags; for a declaration by name its `name`; a wildcard is the fixed `body`
    field): no member is dropped, none is added -/
theorem c02_content_model_all_inputs (node : XNode) (ctx : Ctx) (acc : List Field) (fuel : Nat) (d : Doc) (r : List Field)
    (h : (runNM (importSequence node ctx acc fuel) d).1 = .ok r) :
    ∃ fs, r = acc ++ fs ∧ fs.length = (memberSites node ctx.ancestors).length ∧ Matches (memberSites node ctx.ancestors) fs := by
  obtain ⟨fs, h1, h2⟩ := Returns.run (sequence_spec node ctx acc fuel) h
  exact ⟨fs, h1, matches_length h2, h2⟩

/-- the flags are those of the effective occurrence over all enclosing particles, spelled out for `isVec` and `isChoice`; that the
    wrapper follows them is `C02.c02_wrapper` -/
theorem c02_member_flags (node : XNode) (anc : List XNode) (f : Field) (h : FieldOf node anc f) (hn : node.tag ≠ "any") :
    f.isVec = (mayRepeat (node.attr? "maxOccurs") || (enclosingParticles anc).any (fun n => mayRepeat (n.attr? "maxOccurs"))) ∧
    f.isChoice = (enclosingParticles anc).any (fun n => n.tag == "choice") := by
  have := h.2 hn
  exact ⟨by rw [this.2.2.1]; rfl, by rw [this.2.2.2.2.1]; rfl⟩

end ZeepVerif.Props.C02All
