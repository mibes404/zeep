/-
C11 — each reachable schema file is read exactly once; others never matter.
The import traversal of reader.rs (`read_xml_internal` / `process_import`) as a function `visit` on an arbitrary import
graph. `visit` is written after reader.rs, not derived from the model: of the model's `read_xml` itself `Props/C11All`
states at-most-once and the irrelevance of unreachable files. Not covered: that every reachable file is entered when the
fuel suffices (`c11_once` is the "at most once" half).
-/
import ZeepVerif.Model.Reader

namespace ZeepVerif.Props.C11
open ZeepVerif.Model

/-- the files entered, in order: `p` are the files marked so far. The file is marked *before* its
    imports are followed, as in reader.rs: an import cycle then ends at the marked file. -/
def visit (imports : String → List String) : Nat → List String → String → List String
  | 0, p, _ => p
  | fuel + 1, p, f =>
    if p.contains f then p
    else (imports f).foldl (fun p g => visit imports fuel p g) (p ++ [f])

/-- files reachable from `f` by following imports -/
inductive Reach (imports : String → List String) : String → String → Prop
  | refl (f : String) : Reach imports f f
  | step {f g h : String} : g ∈ imports f → Reach imports g h → Reach imports f h

/-- What marking keeps, the traversal keeps: `P` of the marked list survives marking an unmarked file that satisfies `Q`,
    and `Q` passes from a file to its imports. The three statements below are instances. -/
theorem visit_keeps {imports : String → List String} {P : List String → Prop} {Q : String → Prop}
    (hmark : ∀ p f, P p → Q f → f ∉ p → P (p ++ [f])) (hstep : ∀ f g, Q f → g ∈ imports f → Q g) :
    ∀ fuel p f, P p → Q f → P (visit imports fuel p f)
  | 0, _, _, hp, _ => hp
  | fuel + 1, p, f, hp, hf => by
    unfold visit
    split
    · exact hp
    · next hc =>
      exact List.foldlRecOn (motive := P) _ _ (hmark p f hp hf (by simpa using hc)) fun r hr g hg =>
        visit_keeps hmark hstep fuel r g hr (hstep f g hf hg)

/-- no file is entered twice, whatever the import graph: the marked list never gets a duplicate -/
theorem c11_once (imports : String → List String) :
    ∀ fuel p f, p.Nodup → (visit imports fuel p f).Nodup := fun fuel p f h =>
  visit_keeps (Q := fun _ => True) (fun _ f hp _ hf => List.nodup_append.mpr ⟨hp, List.pairwise_singleton _ f,
    fun _ ha _ hb e => hf (List.mem_singleton.mp hb ▸ e ▸ ha)⟩) (fun _ _ _ _ => trivial) fuel p f h trivial

/-- files already marked stay marked, in the same order (a prefix): what was read is never re-read or lost -/
theorem c11_monotone (imports : String → List String) :
    ∀ fuel p f, ∃ q, visit imports fuel p f = p ++ q := fun fuel p f =>
  visit_keeps (P := fun r => ∃ q, r = p ++ q) (Q := fun _ => True)
    (fun _ g ⟨q, hq⟩ _ _ => ⟨q ++ [g], by rw [hq, List.append_assoc]⟩) (fun _ _ _ _ => trivial) fuel p f ⟨[], by simp⟩ trivial

/-- only files reachable from the start file (or marked before) are ever entered: an unreachable
    sibling file cannot influence the run -/
theorem c11_only_reachable (imports : String → List String) :
    ∀ fuel p f, ∀ x ∈ visit imports fuel p f, x ∈ p ∨ Reach imports f x := fun fuel p f =>
  -- `Q g`: what `g` reaches, `f` reaches
  visit_keeps (P := fun r => ∀ x ∈ r, x ∈ p ∨ Reach imports f x) (Q := fun g => ∀ x, Reach imports g x → Reach imports f x)
    (fun _ g hr hg _ x hx => (List.mem_append.mp hx).elim (hr x) fun h => .inr (List.mem_singleton.mp h ▸ hg g (.refl g)))
    (fun _ _ hg hi x hx => hg x (.step hi hx)) fuel p f (fun _ => .inl) fun _ => id

/-! non-vacuity: a mutual import and a self import, entered once each -/
def demo : String → List String
  | "a" => ["b", "a"]
  | "b" => ["a", "c"]
  | _ => []

example : visit demo 10 [] "a" = ["a", "b", "c"] := by decide

end ZeepVerif.Props.C11
