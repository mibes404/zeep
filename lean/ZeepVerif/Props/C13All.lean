/-
C13 (and the termination clause of C11) for every file table: the reader model never exhausts its fuel — the descent over
imports, forward references and nested particles always ends, with a document or with one of zeep's own errors — and its
depth is linear in the size of the input (`Lemmas/DepthFile`, `Lemmas/Depth`).
Hypothesis `TableOK` (decidable form `tableOKB`, evaluated on the real parse by the checks): every `schema` element with
element children carries a `targetNamespace`, and the file has fewer than ~2.3 million elements (the node-level budget is
a constant of the model). Together with the outcome-class correspondence (child process: returned / panicked / killed /
timed out) this is the model-side half of "never overflows the stack or loops".
-/
import ZeepVerif.Lemmas.DepthFile
import ZeepVerif.Props.C11Demo

namespace ZeepVerif.Props.C13All
open ZeepVerif.Model ZeepVerif.Lemmas.Depth ZeepVerif.Lemmas.DepthFile

/-- any files meeting the decidable hypothesis, any start file name, any import graph: with a budget of three per file and three
    more the model returns a document or a `WriterError`, never `outOfFuel` -/
theorem c13_reader_terminates (fs : List XFile) (start : String) (fuel : Nat) (hT : tableOKB fs = true)
    (hf : 3 * fs.length + 3 ≤ fuel) :
    (∃ d, readXml fs start fuel = .ok d) ∨ (∃ e, readXml fs start fuel = .error e ∧ e ≠ Err.outOfFuel) := by
  have h := readXml_never_out_of_fuel fs start fuel (tableOKB_sound fs hT) hf
  cases hr : readXml fs start fuel with
  | ok d => exact Or.inl ⟨d, rfl⟩
  | error e => exact Or.inr ⟨e, rfl, fun he => h (by rw [hr, he])⟩

/-- the model's default budget (10000) covers every file set of up to 3332 files -/
theorem c13_default_budget (fs : List XFile) (start : String) (hT : tableOKB fs = true) (hn : fs.length ≤ 3332) :
    readXml fs start ≠ .error .outOfFuel :=
  readXml_never_out_of_fuel fs start 10000 (tableOKB_sound fs hT) (by omega)

/-- node level: reading any component with the model's node budget hands the `resolving` stack back and does not run out of fuel,
    whatever the component refers to (forward references, reference cycles, nested particles) -/
theorem c13_component_read_bounded (all : List (XNode × List XNode)) (h : elemsOKB all = true) (node : XNode) (ctx : Ctx)
    (hc : ctx.allElems = all) (d : Doc) (hd : d.resolving = []) :
    (runNM (tryFromNode node ctx nodeFuel) d).2.resolving = [] ∧
    (runNM (tryFromNode node ctx nodeFuel) d).1 ≠ .error .outOfFuel :=
  bounded_run _ (bounded_tfn all (elemsOKB_sound all h) node ctx hc) d hd

/-- what is bounded here is the number of keys, at most six per element; the depth is at most seven levels for each key and seven
    more (`Frame.Fits`) -/
theorem c13_depth_linear (all : List (XNode × List XNode)) : (keySpace all).length ≤ 6 * all.length :=
  keySpace_length all

/-! non-vacuity: the cyclic file set of `Props/C11Demo` (a.xsd ⇄ b.xsd, b.xsd imports itself) meets the hypothesis -/
example : tableOKB C11Read.demoCycle = true := by decide
example : readXml C11Read.demoCycle "a.xsd" ≠ .error .outOfFuel := c13_default_budget _ _ (by decide) (by decide)

end ZeepVerif.Props.C13All
