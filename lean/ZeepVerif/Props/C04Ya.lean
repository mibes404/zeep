/-
C04 in the yaserde model `Ya`, for every program of the class `Lemmas/YaRt.core` and every well-typed value (`okVal`:
primitive texts non-empty and in `Display` form, attribute texts without tab, LF, CR). `_partial`: a struct with a
`flatten` member (a simple type derived from a named simple type) is not in the class (`YaRt.fieldCore` says why).
The excluded empty string is a theorem too: it is lost.
-/
import ZeepVerif.Lemmas.YaRt
import ZeepVerif.Props.C03Ya

namespace ZeepVerif.Props.C04Ya
open ZeepVerif.Ya ZeepVerif.Lemmas.YaWf ZeepVerif.Lemmas.YaRt

theorem c04_roundtrip_partial (P : Prog) (hP : core P = true) (n : String) (v : Val) (px : PX) (rx : RX)
    (hok : okVal P (.struct n) v = true) (hs : serRoot P n v = some px) (hr : resolve [] px = some rx) :
    deRoot P n rx = some v :=
  roundtrip P hP n v px rx hok hs hr

theorem c04_fixpoint_partial (P : Prog) (hP : core P = true) (n : String) (v : Val) (px : PX) (rx : RX)
    (hok : okVal P (.struct n) v = true) (hs : serRoot P n v = some px) (hr : resolve [] px = some rx) :
    (deRoot P n rx).bind (serRoot P n) = some px :=
  fixpoint P hP n v px rx hok hs hr

/-- with `declared` the reader's view exists, so the two hypotheses about `px`/`rx` can be discharged -/
theorem c04_roundtrip_exists (P : Prog) (hP : core P = true) (hD : declared P = true) (n : String) (v : Val) (px : PX)
    (hok : okVal P (.struct n) v = true) (hs : serRoot P n v = some px) :
    ∃ rx, resolve [] px = some rx ∧ deRoot P n rx = some v := by
  obtain ⟨rx, hr⟩ := Option.isSome_iff_exists.mp (C03Ya.c03_every_prefix_declared P hD n v px hs)
  exact ⟨rx, hr, roundtrip P hP n v px rx hok hs hr⟩

/-! the excluded point: `Some("")` in an optional string member comes back as `None` (xml-rs writes no character event
    for the empty string, and the deserialiser skips an element without character data), as with the real crates -/
def optP : Prog := [
  { name := "T", pfx := some "a", nss := [("a", "urn:a")], rename := "T",
    fields := [ { kind := .elem, pfx := some "a", rename := "note", wrap := .opt, leaf := .prim .string } ] } ]
def someEmpty : Val := .struct "T" (.cons (.cons (.prim "") .nil) .nil)
def noneVal : Val := .struct "T" (.cons .nil .nil)

theorem c04_empty_text_counterexample (rx : RX) (h : (serRoot optP "T" someEmpty).bind (resolve []) = some rx) :
    deRoot optP "T" rx = some noneVal := by
  simp [serRoot, optP, someEmpty, Prog.find, serVal, serFields, serItems, txt, Parts.merge, PXs.append, resolve, resolveList,
    nsLookup, attrsBound] at h
  subst h
  simp [deRoot, optP, Prog.find, rootNsOk, deVal, deKids, firstOwner, elemKey, StructD.fieldNs, nsLookup, RX.key, RX.ns, RX.lname,
    assemble, wrapItems, Vals.ofList, Vals.last?, noneVal]

/-! non-vacuity of the round trip: the demo program and value of `C03Ya` meet every hypothesis -/
example : ∃ rx, (serRoot C03Ya.demoP "m::Order" C03Ya.demoV).bind (resolve []) = some rx ∧
    deRoot C03Ya.demoP "m::Order" rx = some C03Ya.demoV := by
  obtain ⟨px, hpx⟩ := Option.isSome_iff_exists.mp (show (serRoot C03Ya.demoP "m::Order" C03Ya.demoV).isSome = true by decide)
  obtain ⟨rx, hr, hd⟩ := c04_roundtrip_exists C03Ya.demoP (by decide) (by decide) "m::Order" C03Ya.demoV px (by decide) hpx
  exact ⟨rx, by rw [hpx]; exact hr, hd⟩

end ZeepVerif.Props.C04Ya
