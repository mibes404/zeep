/-
C18 — client futures are Send and usable from a multi-threaded runtime.
Two abstractions of what rustc decides (it is consulted on every run): (i) the emitted data types are built from
Send + Sync leaves only; (ii) the extracted helper body has no binding whose initializer is `!Send` (Rc, RefCell, a lock
guard, …), so none can be alive across an `.await`.
-/
import ZeepVerif.Lemmas.StepWords
import ZeepVerif.Model.Emit

namespace ZeepVerif.Props.C18
open ZeepVerif.Model ZeepVerif.Model.Http ZeepVerif.Generated

def sendSyncLeaves : List String := ["String", "i8", "i16", "i32", "i64", "u8", "u16", "u32", "u64", "f32", "f64", "bool"]

/-- every emitted member type is a Send + Sync primitive/String, or a generated struct (whose members
    are again of this form) — under `Option`/`Vec` only (`C02.c02_wrapper`) -/
theorem c18_leaf_types (t : FType) : t.isOther = true ∨ sendSyncLeaves.contains t.render = true := by
  cases t with
  | other => exact .inl rfl
  | _ => exact .inr (by decide)

/-- the liveness abstraction: bindings of the helper body that are `!Send` by construction -/
def notSendBindings : List (String × String × Nat) := Send.sendBindings.filter (fun b => b.2.1 != "send")

/-- no `!Send` binding is created in the helper at all; what stays alive across its awaits are the
    request value (`YI`), `&Client`, `&str` and reqwest's own Send types -/
theorem c18_nothing_notsend_across_await : notSendBindings = [] := by decide

/-- the helper suspends exactly twice (`send().await`, `text().await`), after the synchronous check and
    serialisation; the reference-counted restriction data lives only inside those synchronous calls -/
theorem c18_awaits : (helperSteps.filter (· == Step.await)).length = 2 ∧
    helperSteps.idxOf Step.check < helperSteps.idxOf Step.await ∧
    helperSteps.idxOf Step.serialize < helperSteps.idxOf Step.await := by
  -- `parseStep`: by `Lemmas/StepWords`
  simp [helperSteps, Send.sendSteps]; decide

/-- four chunks (signature, `let credentials`, the call of the helper, `}`): the body binds borrowed credentials and
    awaits the helper; nothing else is alive in the generated `async fn` -/
theorem c18_method_body (opName : String) (op : BindOp) : (writeAsyncSoapCall opName op).length = 4 ∧
    (writeAsyncSoapCall opName op)[1]? =
      some "    let credentials = self.credentials.as_ref().map(|(u, p)| (u.as_str(), p.as_str()));\n" := by
  cases h : op.output <;> simp [writeAsyncSoapCall, h]

/-- the client struct holds a `reqwest::Client`, a `String` and optional credentials: Send + Sync (chunks 1–3) -/
theorem c18_service_fields (s : Service) :
    (writeService s)[1]? = some "    pub client: reqwest::Client,\n" ∧
    (writeService s)[2]? = some "    pub location: String,\n" ∧
    (writeService s)[3]? = some "    pub credentials: Option<(String, String)>,\n" := by
  simp [writeService]

end ZeepVerif.Props.C18
