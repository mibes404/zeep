/-
C07, first sentence, for every value tree whose texts' integer readings, if any, fit `i128`: checking fails iff some
simple-typed value anywhere inside it, at any depth, inside optional or repeated members, violates a facet its type
declares or inherits by derivation.
`checkVal` interprets the emitted check impls over the value model of `Ya`: a complex type (`write_complex_type`) checks
every member in order with the incoming restrictions and stops at the first error; a restricted simple type
(`write_type_alias` + `write_check_restrictions_header`) checks its `value` member against the incoming restrictions, if
any, then against its own; a primitive is checked by the translated `check_String` (simple types carry their value as
text).
-/
import ZeepVerif.Ya.Model
import ZeepVerif.Props.C07

namespace ZeepVerif.Props.C07Tree
open ZeepVerif.Runtime ZeepVerif.Generated ZeepVerif.Ya

/-- what the emitted impl of a struct does -/
inductive CheckD where
  | complex
  | simple (own : Restr.Restrictions)

mutual
def checkVal (C : String → CheckD) : Val → Option Restr.Restrictions → Res
  | .prim s, inc => Restr.check_String inc s
  | .struct n fs, inc =>
    match C n with
    | .complex => checkFields C fs inc
    | .simple own =>
      match (if inc.isSome then checkFields C fs inc else Res.ok) with
      | .ok => checkFields C fs (some own)
      | e => e
def checkFields (C : String → CheckD) : FVals → Option Restr.Restrictions → Res
  | .nil, _ => .ok
  | .cons items rest, inc =>
    match checkItems C items inc with
    | .ok => checkFields C rest inc
    | e => e
def checkItems (C : String → CheckD) : Vals → Option Restr.Restrictions → Res
  | .nil, _ => .ok
  | .cons v rest, inc =>
    match checkVal C v inc with
    | .ok => checkItems C rest inc
    | e => e
end

mutual
/-- every text leaf of a value with the restriction sets of the simple types on the way down to it -/
def leaves (C : String → CheckD) : Val → List (String × List Restr.Restrictions)
  | .prim s => [(s, [])]
  | .struct n fs =>
    match C n with
    | .complex => leavesF C fs
    | .simple own => (leavesF C fs).map (fun p => (p.1, own :: p.2))
def leavesF (C : String → CheckD) : FVals → List (String × List Restr.Restrictions)
  | .nil => []
  | .cons items rest => leavesI C items ++ leavesF C rest
def leavesI (C : String → CheckD) : Vals → List (String × List Restr.Restrictions)
  | .nil => []
  | .cons v rest => leaves C v ++ leavesI C rest
end

/-- what a leaf has to pass: the incoming restriction set, if any, and every restriction set on its path -/
def LeafOk (inc : Option Restr.Restrictions) (p : String × List Restr.Restrictions) : Prop :=
  (∀ i, inc = some i → Restr.check_String (some i) p.1 = .ok) ∧ ∀ r ∈ p.2, Restr.check_String (some r) p.1 = .ok

theorem seq_ok (a b : Res) : (match a with | .ok => b | e => e) = .ok ↔ a = .ok ∧ b = .ok := by
  cases a <;> simp

theorem LeafOk_iff (inc : Option Restr.Restrictions) (p : String × List Restr.Restrictions) :
    LeafOk inc p ↔ C07.chainCheck (fun r => Restr.check_String r p.1) p.2 inc = .ok :=
  (C07.chain_iff (fun r => Restr.check_String r p.1) (C06.check_String_none p.1) p.2 inc).symm

theorem LeafOk_cons (inc : Option Restr.Restrictions) (own : Restr.Restrictions) (s : String) (rs : List Restr.Restrictions) :
    LeafOk inc (s, own :: rs) ↔ (∀ i, inc = some i → LeafOk (some i) (s, rs)) ∧ LeafOk (some own) (s, rs) := by
  simp only [LeafOk_iff, C07.chainCheck, C07.emittedSimpleCheck_iff]

mutual
theorem checkVal_iff (C : String → CheckD) : ∀ (v : Val) (inc : Option Restr.Restrictions),
    checkVal C v inc = .ok ↔ ∀ p ∈ leaves C v, LeafOk inc p
  | .prim s, inc => by
    cases inc <;> simp [checkVal, leaves, LeafOk, C06.check_String_none]
  | .struct n fs, inc => by
    cases hC : C n with
    | complex => simpa [checkVal, leaves, hC] using checkFields_iff C fs inc
    | simple own =>
      -- the `.simple` case of `checkVal` is `C07.emittedSimpleCheck` around the members' check
      have : checkVal C (.struct n fs) inc = C07.emittedSimpleCheck own (checkFields C fs) inc := by
        simp only [checkVal, hC]; rfl
      simp only [this, C07.emittedSimpleCheck_iff, leaves, hC, List.forall_mem_map, LeafOk_cons, checkFields_iff C fs]
      exact ⟨fun ⟨h1, h2⟩ p hp => ⟨fun i hi => h1 i hi p hp, h2 p hp⟩,
        fun h => ⟨fun i hi p hp => (h p hp).1 i hi, fun p hp => (h p hp).2⟩⟩
theorem checkFields_iff (C : String → CheckD) : ∀ (fs : FVals) (inc : Option Restr.Restrictions),
    checkFields C fs inc = .ok ↔ ∀ p ∈ leavesF C fs, LeafOk inc p
  | .nil, inc => by simp [checkFields, leavesF]
  | .cons items rest, inc => by
    simp only [checkFields, leavesF, List.forall_mem_append, seq_ok, checkItems_iff C items inc, checkFields_iff C rest inc]
theorem checkItems_iff (C : String → CheckD) : ∀ (vs : Vals) (inc : Option Restr.Restrictions),
    checkItems C vs inc = .ok ↔ ∀ p ∈ leavesI C vs, LeafOk inc p
  | .nil, inc => by simp [checkItems, leavesI]
  | .cons v rest, inc => by
    simp only [checkItems, leavesI, List.forall_mem_append, seq_ok, checkVal_iff C v inc, checkItems_iff C rest inc]
end

/-- facets are enforced at every depth: checking a value tree from the top (no incoming restrictions) succeeds exactly
    when every text leaf, whatever lies above it, satisfies under XSD semantics the facets of every restricted simple
    type on its path (the type's own and those of every type it is derived from); `hfit`: as in `C07.c07_derivation_chain` -/
theorem c07_enforced_at_every_depth (C : String → CheckD) (v : Val)
    (hfit : ∀ p ∈ leaves C v, ∀ n, lexInt p.1 = some n → inRange "i128" n) :
    checkVal C v none = .ok ↔ ∀ p ∈ leaves C v, ∀ r ∈ p.2, (C06.facetsOf r).satString p.1 := by
  rw [checkVal_iff]
  exact forall₂_congr fun p hp => (LeafOk_iff none p).trans (C07.c07_derivation_chain p.2 p.1 (hfit p hp))

/-! non-vacuity: an order with a repeated line whose quantity is a `Tiny` (maxLength 2, derived from `Small`, minLength 1)
    nested two structs deep: "abc" in the second line is found -/
def demoC : String → CheckD
  | "Tiny" => .simple { max_length := some 2 }
  | "Small" => .simple { min_length := some 1 }
  | _ => .complex

def demoLine (q : String) : Val :=
  .struct "Line" (.cons (.cons (.struct "Tiny" (.cons (.cons (.struct "Small" (.cons (.cons (.prim q) .nil) .nil)) .nil) .nil)) .nil) .nil)

example : checkVal demoC (.struct "Order" (.cons (.cons (demoLine "ab") (.cons (demoLine "abc") .nil)) .nil)) none ≠ .ok := by decide
example : checkVal demoC (.struct "Order" (.cons (.cons (demoLine "ab") (.cons (demoLine "a") .nil)) .nil)) none = .ok := by decide

end ZeepVerif.Props.C07Tree
