/-
C14 — schema-supplied text reaches the output only as data, never as code.
Lexical theorems over `RustLex` (identifiers, keywords of edition 2024) and the keyword table the
translator regenerates from field.rs.
-/
import ZeepVerif.RustLex
import ZeepVerif.Generated.Tables
import ZeepVerif.Model.Emit
import ZeepVerif.Lemmas.Literal
import ZeepVerif.Lemmas.Ident

namespace ZeepVerif.Props.C14
open ZeepVerif.RustLex ZeepVerif.Generated ZeepVerif.Model

/-- one evaluation for the three facts: separately each pays the same fixed price again -/
theorem table_ok :
    (keywords.all (fun k => k == "Self" || (Tables.keywordTable.any (fun kv => kv.1 == k))) &&
      Tables.keywordTable.all (fun kv => keywords.contains kv.1 && isIdent kv.2)) = true := by decide +kernel

theorem table_row {kv : String × String} (h : kv ∈ Tables.keywordTable) :
    keywords.contains kv.1 = true ∧ isIdent kv.2 = true :=
  Bool.and_eq_true _ _ ▸ List.all_eq_true.1 (Bool.and_eq_true _ _ ▸ table_ok).2 kv h

/-- every strict and reserved keyword of edition 2024 that a snake_case name can be is in the table
    (`Self` is the only keyword that is not lower case; type names handle it) -/
theorem c14_keywords_covered :
    keywords.all (fun k => k == "Self" || (Tables.keywordTable.any (fun kv => kv.1 == k))) = true :=
  (Bool.and_eq_true _ _ ▸ table_ok).1

/-- every identifier the table produces is a legal identifier token: a raw identifier where that is
    allowed, a suffixed plain one for crate/self/super -/
theorem c14_keyword_values_legal : Tables.keywordTable.all (fun kv => isIdent kv.2) = true :=
  List.all_eq_true.2 fun _ h => (table_row h).2

/-- the table only renames keywords: a name that is not a keyword is left alone, and every key is one -/
theorem c14_table_only_keywords :
    Tables.keywordTable.all (fun kv => keywords.contains kv.1) = true ∧ Tables.keywordDefault = "identity" :=
  ⟨List.all_eq_true.2 fun _ h => (table_row h).1, rfl⟩

theorem kw_lower {k : String} (hk : k ∈ keywords) (hS : k ≠ "Self") {c : Char} (hc : c ∈ k.toList) :
    Inflector.isLowerA c = true := by
  have h : keywords.all (fun k => k == "Self" || k.toList.all Inflector.isLowerA) = true := by decide +kernel
  have := List.all_eq_true.1 h k hk
  simp only [Bool.or_eq_true, beq_iff_eq, hS, false_or, List.all_eq_true] at this
  exact this c hc

theorem not_keyword {s : String} {c : Char} (hc : c ∈ s.toList) (hl : Inflector.isLowerA c = false) (hS : s ≠ "Self") :
    keywords.contains s = false := by
  rw [Bool.eq_false_iff]
  intro h
  rw [kw_lower (List.contains_iff_mem.1 h) hS hc] at hl
  cases hl

theorem isIdent_not_reserved {v : String} (h : isIdent v = true) :
    (v != "r#crate" && v != "r#self" && v != "r#super" && v != "r#Self" && !(keywords.contains v)) = true := by
  have hk : keywords.contains v = false := by
    unfold isIdent isIdentChars at h
    split at h
    · next rest hv => exact not_keyword (c := '#') (by simp [hv]) (by decide) (by rintro rfl; simp at hv)
    · rw [String.ofList_toList, Bool.and_eq_true, Bool.not_eq_true'] at h
      exact h.2
  -- `v` is none of the four: they are not identifiers
  have hr : ∀ r, isIdent r = false → (v != r) = true := fun r hr => bne_iff_ne.2 fun e => by rw [e, hr] at h; cases h
  rw [hk, hr _ (by decide +kernel), hr _ (by decide +kernel), hr _ (by decide +kernel), hr _ (by decide +kernel)]
  rfl

/-- no produced identifier is itself a keyword or one of the forms that cannot be raw -/
theorem c14_never_unrawable :
    Tables.keywordTable.all (fun kv => kv.2 != "r#crate" && kv.2 != "r#self" && kv.2 != "r#super" && kv.2 != "r#Self"
      && !(keywords.contains kv.2)) = true :=
  List.all_eq_true.2 fun kv hkv => isIdent_not_reserved (List.all_eq_true.1 c14_keyword_values_legal kv hkv)

/-- the PascalCase type-name function never yields `Self` -/
theorem c14_type_name_not_self (n : String) : xmlNameToRustName n ≠ "Self" := by
  unfold xmlNameToRustName
  simp only
  split
  · simp
  split
  · intro he
    simpa [String.toList_append] using congrArg String.toList he
  split
  · simp
  · next hs => simpa using hs

/-- a numeric facet is emitted as `toString` of some `Int`, never as schema text (that the `Int` is the one parsed from `v` is not stated) -/
theorem c14_numeric_facet_is_number (ty name : String) (v : String) :
    writeNumericFacet ty name (some v) = [] ∨
    ∃ n : Int, writeNumericFacet ty name (some v) = ["   " ++ name ++ ": Some(" ++ toString n ++ "), \n"] := by
  unfold writeNumericFacet
  simp only
  split
  · right; exact ⟨_, rfl⟩
  · left; rfl

open ZeepVerif.Lemmas.Literal in
/-- any text rendered with `{:?}` is one string literal evaluating to that text, whatever follows it in the output -/
theorem c14_literal (s : String) (rest : List Char) :
    lexStrLit ((rustDebugStr s).toList ++ rest) = some (s.toList, rest) := by
  simp only [rustDebugStr, String.toList_ofList]
  exact lex_debug_literal s.toList rest

open ZeepVerif.Lemmas.Literal in
/-- every line written for a documentation text is one line comment, ended by the newline the writer puts after it: no
    documentation text can end the comment early or contain a bare CR -/
theorem c14_doc_line (c l : String) (hl : l ∈ docLines c) (rest : List Char) :
    lexLineComment (("/// " ++ l ++ "\n").toList ++ rest) = some ('/' :: ' ' :: l.toList, '\n' :: rest) := by
  simp only [docLines, List.mem_map] at hl
  obtain ⟨cs, hcs, rfl⟩ := hl
  have h := docLines_no_terminator c.toList cs hcs
  -- the comment's text is `/ ` and the line: the third slash and the blank belong to it
  have := lex_line_comment ('/' :: ' ' :: cs) rest (by simp [h.1]) (by simp [h.2])
  simpa [String.toList_append] using this

/-- the chunks written for a documentation text are exactly those lines -/
theorem c14_comment_chunks (c : String) :
    writeCommentLines (some c) = (docLines c).map (fun l => "/// " ++ l ++ "\n") := rfl

open ZeepVerif.Lemmas.Literal in
/-- the comment that carries an operation name is one block comment for every name: neither `*/` nor a nested `/*`
    survives in it -/
theorem c14_operation_comment (op : String) (rest : List Char) :
    lexBlockComment (("/* " ++ String.ofList (Text.commentText op.toList) ++ " */").toList ++ rest) = some rest := by
  have := lex_operation_comment op.toList rest
  simpa [String.toList_append] using this

/-- enumeration values are written as `{:?}` literals, one per line, and in no other form -/
theorem c14_enumeration_chunks (r : Restr) (e : List String) (h : r.enumeration = some e) :
    ∃ pre post, writeRestrictions r =
      pre ++ (["   enumeration: Some(vec![\n"] ++ e.map (fun v => "      " ++ rustDebugStr v ++ ".to_string(),\n") ++ ["   ]),\n"]) ++ post := by
  unfold writeRestrictions
  rw [h]
  exact ⟨_, _, rfl⟩

/-- the endpoint address is written as a `{:?}` literal (chunk 9: see `C05.c05_location`), never between bare quotes -/
theorem c14_location_chunk (s : Service) :
    (writeService s)[9]? = some ("            location: " ++ rustDebugStr s.location ++ ".to_string(),\n") := by
  simp [writeService]

/-- the soapAction value is written as a `{:?}` literal (chunk 1, after the signature) -/
theorem c14_action_chunk (operationName : String) (op : BindOp) (action : String) :
    (writeSoapAction operationName op action)[1]? = some ("    let url = " ++ rustDebugStr action ++ ";\n") := by
  simp [writeSoapAction]

section Identifiers
open ZeepVerif.Lemmas.Ident ZeepVerif.Inflector

/-- `iok`: `isIdentOrKeywordChars`; its third equation, for everything but `[]` and `['_']` -/
theorem iok_cons (c : Char) (cs : List Char) (h : c ≠ '_' ∨ cs ≠ []) :
    isIdentOrKeywordChars (c :: cs) = (isIdentStart c && cs.all isIdentCont) :=
  isIdentOrKeywordChars.eq_3 c cs fun hc hcs => h.elim (· hc) (· hcs)

/-- not read as a raw identifier: `#` is no identifier character -/
theorem isIdent_of_iok {s : String} (h : isIdentOrKeywordChars s.toList = true) (hk : keywords.contains s = false) :
    isIdent s = true := by
  unfold isIdent isIdentChars
  split
  · next rest hv =>
    rw [hv, iok_cons _ _ (.inl (by decide)), List.all_cons, show isIdentCont '#' = false by decide] at h
    simp at h
  · rw [String.ofList_toList, h, hk]
    rfl

theorem isIdent_underscore {s : String} (hne : s.toList ≠ []) (hcont : s.toList.all isIdentCont = true) :
    isIdent ("_" ++ s) = true := by
  have htl : ("_" ++ s).toList = '_' :: s.toList := by simp [String.toList_append]
  apply isIdent_of_iok
  · rw [htl, iok_cons _ _ (.inr hne), hcont]; rfl
  · exact not_keyword (c := '_') (by simp [htl]) (by decide) (by intro e; rw [e] at htl; simp at htl)

theorem iok_word {l : List Char} {c : Char} {cs : List Char} (hs : l = c :: cs)
    (hc : (isLowerA c || isUpperA c) = true) (hcont : l.all isIdentCont = true) : isIdentOrKeywordChars l = true := by
  have hne : c ≠ '_' := by rintro rfl; revert hc; decide
  rw [hs, List.all_cons, Bool.and_eq_true] at hcont
  rw [hs, iok_cons _ _ (.inl hne), hcont.2, isIdentStart, hc]
  rfl

theorem renameKeywords_ident {n : String} (h : isIdentOrKeywordChars n.toList = true) (hS : n ≠ "Self") :
    isIdent (renameKeywords n) = true := by
  unfold renameKeywords
  split
  · next kv hfind => exact (table_row (List.mem_of_find?_eq_some hfind)).2
  · next hfind =>
    -- a keyword would have been found in the table
    refine isIdent_of_iok h (Bool.eq_false_iff.2 fun hk => ?_)
    have := List.all_eq_true.1 c14_keywords_covered _ (List.contains_iff_mem.1 hk)
    simp only [Bool.or_eq_true, beq_iff_eq, hS, false_or, List.any_eq_true] at this
    obtain ⟨kv, hkv, hk⟩ := this
    exact List.find?_eq_none.1 hfind kv hkv (by simpa using hk)

theorem fallback_idents : isIdent "_unnamed" = true ∧ isIdent "Unnamed_" = true ∧ isIdent "Self_" = true := by
  decide +kernel

/-- the field name made from any ASCII name is a legal identifier token (a raw identifier for a keyword, a suffixed one
    where raw is not allowed, `_`-prefixed when it would start with a digit) -/
theorem c14_field_name_is_ident (n : String) (h : Ascii n.toList) : isIdent (asFieldName n) = true := by
  obtain ⟨hcont, hhead⟩ := snake_chars n h
  unfold asFieldName
  simp only
  split
  · exact fallback_idents.1
  next c cs hs =>
  split
  · exact isIdent_underscore (by simp [hs]) hcont
  next hd =>
  have hcl : isLowerA c = true := by simpa [hd] using hhead c (by simp [hs])
  refine renameKeywords_ident (iok_word hs (by simp [hcl]) hcont) fun e => ?_
  rw [e] at hs
  simp at hs
  rw [← hs.1] at hcl
  revert hcl; decide

theorem not_lower_of_upper {c : Char} (h : isUpperA c = true) : isLowerA c = false := by
  simp only [isUpperA, Bool.and_eq_true, decide_eq_true_eq] at h
  have : ¬ 'a' ≤ c := fun ha => absurd (Char.le_trans ha h.2) (by decide)
  simp [isLowerA, this]
theorem c14_type_name_is_ident (n : String) (h : Ascii n.toList) : isIdent (xmlNameToRustName n) = true := by
  obtain ⟨hcont, hhead⟩ := pascal_chars n h
  unfold xmlNameToRustName
  simp only
  split
  · exact fallback_idents.2.1
  next c cs hs =>
  split
  · exact isIdent_underscore (by simp [hs]) hcont
  next hd =>
  split
  · exact fallback_idents.2.2
  next hself =>
  have hup : isUpperA c = true := by simpa [hd] using hhead c (by simp [hs])
  exact isIdent_of_iok (iok_word hs (by simp [hup]) hcont)
    (not_keyword (c := c) (by simp [hs]) (not_lower_of_upper hup) (by simpa using hself))

end Identifiers


/-! non-vacuity -/
example : lexStrLit ((rustDebugStr "a\"; fn marker() {} //\\").toList ++ "; x".toList) = some ("a\"; fn marker() {} //\\".toList, "; x".toList) :=
  c14_literal _ _
example : (String.ofList (Text.commentText "a*/ fn marker() {} /*".toList)) = "a* / fn marker() {} / *" := by decide +kernel

example : renameKeywords "type" = "r#type" ∧ renameKeywords "self" = "self_" ∧ renameKeywords "name" = "name" := by decide +kernel

end ZeepVerif.Props.C14
