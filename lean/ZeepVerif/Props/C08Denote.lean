/-
C08 and C09 joined, for every input: the base whose members a derived type starts with is the component the `base` QName
denotes (`C09Denote`); the rest of the member list is as in `C08All`.
-/
import ZeepVerif.Props.C08All
import ZeepVerif.Props.C09Denote

namespace ZeepVerif.Props.C08Denote
open ZeepVerif.Model ZeepVerif.Lemmas.Keeps Std.Do ZeepVerif.Props.C02All ZeepVerif.Props.C08All ZeepVerif.Props.C09Denote
  ZeepVerif.Props.DocAll

/-- `Derived` with the base pinned down: it is what the QName in `base=` — split by the prefix table of the document state `d` at that
    moment — denotes as a type -/
def DerivedD (ctx : Ctx) (ext cc : XNode) (r : List Field) : Prop :=
  ∃ (d : Doc) (baseName : String) (bn : RNode) (blocks : List (List Field)) (attrs : List Field),
    ext.attr? "base" = some baseName ∧
    Denotes ctx (resolveType d baseName).1 (resolveType d baseName).2 .type bn ∧
    r = baseFieldsOf bn ++ blocks.flatten ++ attrs ∧
    blocks.length = (seqKids ext.elemKids).length ∧
    (∀ b ∈ blocks, Matches (memberSites ext (cc :: ctx.ancestors)) b) ∧
    MatchesA (ext :: cc :: ctx.ancestors) (attrKids ext.elemKids) attrs

theorem denotes_kind {ctx x ns k rn} (h : Denotes ctx x ns k rn) : k.matchesType rn.rtype = true := by
  rcases h with ⟨_, _, h3⟩ | ⟨d, n, anc, schema, nm, _, _, _, _, htag, _, _, _, hno⟩
  · exact h3
  · exact (nodeOf_iff.mp hno).kind htag

theorem derivedD_derived {ctx ext cc r} (h : DerivedD ctx ext cc r) : Derived ext cc ctx.ancestors r := by
  obtain ⟨d, bname, bn, blocks, attrs, _, hden, hr, hl, hm, ha⟩ := h
  exact ⟨bn, blocks, attrs, denotes_kind hden, hr, hl, hm, ha⟩

theorem extension_spec_denotes (node : XNode) (ctx : Ctx) (fuel : Nat) :
    ⦃fun _ => ⌜True⌝⦄ importExtension node ctx fuel
    ⦃post⟨fun r _ => ⌜match node.kids.find? (fun n => n.isElem && n.tag == "extension") with
                       | none => r = []
                       | some ext => DerivedD ctx ext node r⌝, fun _ _ => ⌜True⌝⟩⦄ :=
  extension_full fnd_denotes node ctx fuel

/-- C08 with C09: what `import_extension_fields` returns starts with the members of the component that the extension's `base` QName
    denotes as a type (`Denotes`), whether that type is declared before or after the derived one, in this file or another -/
theorem c08_base_is_the_denoted_type (node : XNode) (ctx : Ctx) (fuel : Nat) (d : Doc) (r : List Field) (ext : XNode)
    (hext : node.kids.find? (fun n => n.isElem && n.tag == "extension") = some ext)
    (h : (runNM (importExtension node ctx fuel) d).1 = .ok r) : DerivedD ctx ext node r := by
  simpa [hext] using Returns.run (extension_spec_denotes node ctx fuel) h

end ZeepVerif.Props.C08Denote
