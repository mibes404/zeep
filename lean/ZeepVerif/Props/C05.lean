/-
C05 — every WSDL operation gets correct SOAP envelopes and one client method.
Theorems about the model of the binding/service writers and of the body-part choice.
-/
import ZeepVerif.Model.Emit

namespace ZeepVerif.Props.C05
open ZeepVerif.Model

/-- the service client has exactly one method per operation of its binding, in the binding's order, between the
    constructor and the closing brace (13: five chunks of struct definition, eight of `impl … new`) -/
theorem c05_one_method_per_operation (s : Service) :
    ∃ head, writeService s = head ++ s.binding.ops.flatMap (fun (n, op) => writeAsyncSoapCall n op) ++ ["}\n"] ∧
      head.length = 13 := by
  refine ⟨_, rfl, ?_⟩
  simp

/-- each method is `async`, is named by the escaped snake_case operation name, takes the request envelope
    and returns the response envelope — or `()` exactly when the operation has no output -/
theorem c05_method_signature (opName : String) (op : BindOp) :
    (writeAsyncSoapCall opName op).head? = some
      ("pub async fn " ++ asFieldName opName ++ "(&self, req: " ++ xmlNameToRustName opName ++ "InputEnvelope) -> error::SoapResult<" ++
        (match op.output with
         | some _ => xmlNameToRustName opName ++ "OutputEnvelope"
         | none => "()") ++ "> {\n") := by
  cases h : op.output <;> simp [writeAsyncSoapCall, h, String.append_assoc]

/-- every method posts through the shared helper with the client's own address and credentials (chunk 2: after
    the signature and the `let credentials` line) -/
theorem c05_method_posts_to_location (opName : String) (op : BindOp) :
    ∃ call, (writeAsyncSoapCall opName op)[2]? = some call ∧
      (call = "    helpers::send_soap_request_using_client(&self.client, &self.location, credentials, req).await\n" ∨
       call = "    helpers::send_soap_request_using_client::<_, helpers::NoResponse, _, _>(&self.client, &self.location, credentials, req).await.map(|_| ())\n") := by
  cases h : op.output <;> simp [writeAsyncSoapCall, h]

/-- the address the client is constructed with is the port's address (as `reqwest::Url` prints it), written as a string
    literal whose value is exactly that text (`C14.c14_literal`); chunk 9: the `location:` line of `new` -/
theorem c05_location (s : Service) :
    (writeService s)[9]? = some ("            location: " ++ rustDebugStr s.location ++ ".to_string(),\n") := by
  simp [writeService]

/-- the body of a direction whose `soap:body` names no part is never a part the binding declares as a
    header: the chosen part's name is not among the header part names -/
theorem c05_body_not_a_header (parts : List (String × (RNode × Option Ns))) (headerParts : List String)
    (kv : String × (RNode × Option Ns))
    (h : parts.find? (fun kv => !headerParts.contains kv.1) = some kv) : kv.1 ∉ headerParts := by
  have := List.find?_some h
  simpa using this

/-- `BTreeMap` insertion as modelled: the inserted key is found afterwards, with the inserted value -/
theorem c05_bmInsert_get {V : Type} (k : String) (v : V) (m : List (String × V)) :
    bmGet (bmInsert k v m) k = some v := by
  induction m with
  | nil => simp [bmInsert, bmGet]
  | cons kv rest ih =>
    unfold bmInsert
    split
    · simp [bmGet]
    · split
      · simp [bmGet]
      · rename_i h1 h2
        simp only [bmGet, List.find?_cons, beq_eq_false_iff_ne.mpr fun e => h2 e.symm] at ih ⊢
        exact ih

/-! non-vacuity -/
example : (writeAsyncSoapCall "getQuote" ⟨none, ⟨[], ⟨.ignore, none⟩⟩, none⟩).length = 4 := by
  simp [writeAsyncSoapCall]

end ZeepVerif.Props.C05
