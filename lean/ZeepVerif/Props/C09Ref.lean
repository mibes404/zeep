/-
C09 for members written as references (`ref=`), for every input: `Field::try_from_node` on its reference branch. Namespace
`Props.C09Denote`.
-/
import ZeepVerif.Props.C09Denote

namespace ZeepVerif.Props.C09Denote
open ZeepVerif.Model ZeepVerif.Lemmas.Keeps Std.Do

def nsOf (d : Doc) (refName : String) : Option Ns := (splitType refName).2.bind (lookupNs d)

def RefFieldOf (node : XNode) (ctx : Ctx) (refName : String) (f : Field) : Prop :=
  ∃ d : Doc,
    f.tns = nsOf d refName ∧ f.rustType = .other (xmlNameToRustName f.xmlName) ((nsOf d refName).map (·.rustModName)) ∧
    f.rustName = asFieldName (splitType refName).1 ∧
    (if node.tag == "element" then globalComponentExists ctx d (splitType refName).1 (nsOf d refName) .element = true ∧ f.xmlName = (splitType refName).1
     else ∃ rn, Denotes ctx (splitType refName).1 (nsOf d refName) .any rn ∧ rn.rtype.xmlName = some f.xmlName)

theorem refFieldOf_of_full {node : XNode} {ctx : Ctx} {refName : String} {f : Field} {o : Occ} (h : C02All.FieldFull (Denotes ctx) node ctx o f)
    (hany : (node.tag == "any") = false) (href : node.attr? "ref" = some refName) (hxml : refName.startsWith "xml" = false) :
    RefFieldOf node ctx refName f := by
  cases h with
  | any h => rw [hany] at h; cases h
  | xml _ hr hx => rw [href] at hr; cases hr; rw [hxml] at hx; cases hx
  | named _ _ hr _ => rw [href] at hr; cases hr
  | ref d _ hr _ h =>
    rw [href] at hr; cases hr
    refine ⟨d, by simp only [nsOf], by simp only [nsOf], by simp only, ?_⟩
    unfold C02All.refKind at h
    by_cases ht : (node.tag == "element") = true
    · simpa only [ht, if_true, beq_self_eq_true, nsOf] using h
    · rw [Bool.not_eq_true] at ht
      simpa only [ht, Bool.false_eq_true, if_false, show (Kind.any == Kind.element) = false from rfl, nsOf] using h

theorem field_ref_spec (node : XNode) (ctx : Ctx) (fuel : Nat) :
    ⦃fun _ => ⌜True⌝⦄ fieldFromNode node ctx fuel
    ⦃post⟨fun f _ => ⌜∀ refName, (node.tag == "any") = false → node.attr? "ref" = some refName → refName.startsWith "xml" = false →
            RefFieldOf node ctx refName f⌝, fun _ _ => ⌜True⌝⟩⦄ :=
  (C02All.field_full fnd_denotes node ctx fuel).mono (fun _ h _ => refFieldOf_of_full h)

/-- C09 for a member with `ref="p:Name"` (not beginning with `xml`, not a wildcard): for some document state `d` (not tied to
    the run by the statement) the field's namespace is the one `p` is bound to in `d` (the default namespace when there is no prefix), its type `mod_of_that_namespace::PascalCase(name)`,
    its Rust name comes from `Name`; for an element reference a global element `Name` of that namespace exists (read before, or
    declared in the tree) and the field carries that name; for a group / attribute reference the name is that of the component the
    reference denotes (`Denotes`) -/
theorem c09_reference_member_all_inputs (node : XNode) (ctx : Ctx) (fuel : Nat) (d : Doc) (f : Field) (refName : String)
    (hany : (node.tag == "any") = false) (href : node.attr? "ref" = some refName) (hxml : refName.startsWith "xml" = false)
    (h : (runNM (fieldFromNode node ctx fuel) d).1 = .ok f) : RefFieldOf node ctx refName f :=
  Returns.run (field_ref_spec node ctx fuel) h refName hany href hxml

end ZeepVerif.Props.C09Denote
