/-
C08 for every input (any trees, any document state, any fuel): what `import_extension_fields` returns. The base's members
first (a *type*'s, never an element's: `C09All.fnd_kind`), then the extension's own elements, then its own attributes.
-/
import ZeepVerif.Props.C02All
import ZeepVerif.Props.C09All
import ZeepVerif.Props.C08Read

namespace ZeepVerif.Props.C08All
open ZeepVerif.Model ZeepVerif.Lemmas.Keeps Std.Do ZeepVerif.Props.C02All ZeepVerif.Lemmas.NodeSteps

set_option mvcgen.warning false

def baseFieldsOf (bn : RNode) : List Field :=
  match bn.rtype with
  | .complex p => p.fields
  | _ => []

def MatchesA (anc : List XNode) : List XNode → List Field → Prop
  | [], [] => True
  | n :: ns, f :: fs => FieldOf n anc f ∧ MatchesA anc ns fs
  | _, _ => False

theorem matchesA_length {anc : List XNode} : ∀ {ns : List XNode} {fs : List Field}, MatchesA anc ns fs → fs.length = ns.length
  | [], [], _ => rfl
  | _ :: _, _ :: _, h => congrArg (· + 1) (matchesA_length h.2)
  | [], _ :: _, h => h.elim
  | _ :: _, [], h => h.elim

def seqKids (ks : List XNode) : List XNode := ks.filter (fun n => n.tag == "sequence")
def attrKids (ks : List XNode) : List XNode := ks.filter (fun n => n.tag == "attribute")

/-- `ext` is the `extension` element, `cc` the `complexContent` above it, `anc` its ancestors: the members of a component `bn` of kind
    type, then one block per `sequence` child of `ext`, each the member sites of `ext` itself (`seqBlocks`), then one field per
    `attribute` child -/
def Derived (ext cc : XNode) (anc : List XNode) (r : List Field) : Prop :=
  ∃ (bn : RNode) (blocks : List (List Field)) (attrs : List Field),
    Kind.type.matchesType bn.rtype = true ∧ r = baseFieldsOf bn ++ blocks.flatten ++ attrs ∧
    blocks.length = (seqKids ext.elemKids).length ∧
    (∀ b ∈ blocks, Matches (memberSites ext (cc :: anc)) b) ∧
    MatchesA (ext :: cc :: anc) (attrKids ext.elemKids) attrs

theorem seqBlocks_spec (parent : XNode) (ctx : Ctx) (fuel : Nat) (kids : List XNode) (fields : List Field) :
    Returns (seqBlocks parent ctx fuel kids fields) fun r => ∃ blocks : List (List Field),
      r = fields ++ blocks.flatten ∧ blocks.length = (seqKids kids).length ∧ ∀ b ∈ blocks, Matches (memberSites parent ctx.ancestors) b := by
  unfold seqBlocks seqKids
  rw [← List.foldlM_filter]
  induction kids.filter (fun n => n.tag == "sequence") generalizing fields with
  | nil => exact Returns.pure ⟨[], by simp, rfl, by simp⟩
  | cons k ks ih =>
    rw [List.foldlM_cons]
    refine (sequence_spec parent ctx fields fuel).bind fun f1 ⟨fs, h1, hm⟩ => (ih f1).mono ?_
    rintro r ⟨bl, hr, hl, hb⟩
    exact ⟨fs :: bl, by simp [hr, h1], by simp [hl], by simpa using ⟨hm, hb⟩⟩

theorem attrFields_spec (ctx : Ctx) (fuel : Nat) (kids : List XNode) (fields : List Field) :
    Returns (attrFields ctx fuel kids fields) fun r => ∃ attrs, r = fields ++ attrs ∧ MatchesA ctx.ancestors (attrKids kids) attrs := by
  unfold attrFields attrKids
  rw [← List.foldlM_filter]
  induction kids.filter (fun n => n.tag == "attribute") generalizing fields with
  | nil => exact Returns.pure ⟨[], by simp, trivial⟩
  | cons k ks ih =>
    rw [List.foldlM_cons]
    refine (Returns.map _ (field_spec k ctx fuel)).bind fun f1 ⟨f, hf, h1⟩ => (ih f1).mono ?_
    rintro r ⟨as, hr, ha⟩
    exact ⟨f :: as, by simp [hr, h1], hf, ha⟩

/-- `d` is the document state in which the `base` QName is resolved -/
theorem extension_full {D : Ctx → String → Option Ns → Kind → RNode → Prop}
    (hfnd : ∀ c x ns k fuel, Returns (findNodeByXmlName c x ns k fuel) (fun r => ∀ rn, r = some rn → D c x ns k rn))
    (node : XNode) (ctx : Ctx) : ∀ fuel, Returns (importExtension node ctx fuel) (fun r =>
      match node.kids.find? (fun n => n.isElem && n.tag == "extension") with
      | none => r = []
      | some ext => ∃ (d : Doc) (baseName : String) (bn : RNode) (blocks : List (List Field)) (attrs : List Field),
          ext.attr? "base" = some baseName ∧ D ctx (resolveType d baseName).1 (resolveType d baseName).2 .type bn ∧
          r = baseFieldsOf bn ++ blocks.flatten ++ attrs ∧ blocks.length = (seqKids ext.elemKids).length ∧
          (∀ b ∈ blocks, Matches (memberSites ext (node :: ctx.ancestors)) b) ∧
          MatchesA (ext :: node :: ctx.ancestors) (attrKids ext.elemKids) attrs)
  | 0 => Returns.throw _
  | fuel + 1 => by
    rw [importExtension_succ]
    cases node.kids.find? (fun n => n.isElem && n.tag == "extension") with
    | none => exact Returns.pure rfl
    | some ext =>
      exact (Returns.liftOpt _ _).bind fun baseName hb => Returns.getDoc.bind fun d _ => (hfnd ctx _ _ .type fuel).bind fun o ho =>
        (Returns.liftOpt _ _).bind fun bn hbn => (seqBlocks_spec ext _ fuel ext.elemKids _).bind fun f1 ⟨blocks, h1, hl, hm⟩ =>
        (attrFields_spec _ fuel ext.elemKids f1).mono fun r ⟨attrs, hr, ha⟩ =>
          ⟨d, baseName, bn, blocks, attrs, hb, ho bn hbn, by rw [hr, h1]; rfl, hl, hm, ha⟩

theorem extension_spec (node : XNode) (ctx : Ctx) (fuel : Nat) :
    ⦃fun _ => ⌜True⌝⦄ importExtension node ctx fuel
    ⦃post⟨fun r _ => ⌜match node.kids.find? (fun n => n.isElem && n.tag == "extension") with
                       | none => r = []
                       | some ext => Derived ext node ctx.ancestors r⌝, fun _ _ => ⌜True⌝⟩⦄ :=
  (extension_full (D := fun _ _ _ k rn => k.matchesType rn.rtype = true) C09All.fnd_kind node ctx fuel).mono fun r h => by
    revert h
    cases node.kids.find? (fun n => n.isElem && n.tag == "extension") with
    | none => exact id
    | some ext => exact fun ⟨_, _, bn, blocks, attrs, _, hk, h⟩ => ⟨bn, blocks, attrs, hk, h⟩

/-- C08: with no `extension` child there are no members; with one, the members are the base component's first, then one block
    per `sequence` child of the extension, then one field per `attribute` child, each in document order (`Derived`) -/
theorem c08_base_first_all_inputs (node : XNode) (ctx : Ctx) (fuel : Nat) (d : Doc) (r : List Field)
    (h : (runNM (importExtension node ctx fuel) d).1 = .ok r) :
    match node.kids.find? (fun n => n.isElem && n.tag == "extension") with
    | none => r = []
    | some ext => Derived ext node ctx.ancestors r :=
  Returns.run (extension_spec node ctx fuel) h

/-- nothing of the base is dropped or reordered; the number of own members is fixed by the extension's own particles:
    `|sequence children| × |member sites|` elements, then `|attribute children|` attributes -/
theorem c08_member_count (ext cc : XNode) (anc : List XNode) (r : List Field) (h : Derived ext cc anc r) :
    ∃ bn : RNode, baseFieldsOf bn <+: r ∧
      r.length = (baseFieldsOf bn).length + (seqKids ext.elemKids).length * (memberSites ext (cc :: anc)).length
                 + (attrKids ext.elemKids).length := by
  obtain ⟨bn, blocks, attrs, _, hr, hl, hm, ha⟩ := h
  refine ⟨bn, ⟨blocks.flatten ++ attrs, by simp [hr]⟩, ?_⟩
  have h1 : blocks.flatten.length = blocks.length * (memberSites ext (cc :: anc)).length := by
    rw [List.length_flatten, List.map_congr_left fun b hb => matches_length (hm b hb), List.map_const', List.sum_replicate_nat]
  rw [hr, List.length_append, List.length_append, h1, hl, matchesA_length ha]

/-- own attributes come after own elements: every field of the attribute block is an attribute field -/
theorem c08_attrs_last (anc : List XNode) (ns : List XNode) (fs : List Field) (h : MatchesA anc ns fs)
    (hn : ∀ n ∈ ns, n.tag = "attribute") : ∀ f ∈ fs, f.isAttribute = true := by
  induction ns generalizing fs with
  | nil => cases fs with
    | nil => simp
    | cons a b => cases h
  | cons x xs ih => cases fs with
    | nil => cases h
    | cons a b =>
      intro f hf
      rcases List.mem_cons.mp hf with rfl | hf
      · have hx : x.tag = "attribute" := hn x (by simp)
        have := (h.1.2 (by rw [hx]; decide)).2.2.2.1
        rw [this]; simp [occurrence, hx]
      · exact ih b h.2 (fun n hn' => hn n (by simp [hn'])) f hf

/-! non-vacuity: the `complexContent` of the derived type of `C08Read`'s demonstration schema is read, in the document
    `read_xml` returns for that file (it holds `Base`), to four members: base element, base attribute, own element, own attribute -/
def demoCC : XNode :=
  let nss : List (Option String × String) := [(some "xs", "http://www.w3.org/2001/XMLSchema"), (some "tns", "urn:demo")]
  let el (n t : String) : XNode := .elem "element" [⟨"name", none, n⟩, ⟨"type", none, t⟩] nss none []
  .elem "complexContent" [] nss none [.elem "extension" [⟨"base", none, "tns:Base"⟩] nss none [
    .elem "sequence" [] nss none [el "note" "xs:string"],
    .elem "attribute" [⟨"name", none, "flag"⟩, ⟨"type", none, "xs:boolean"⟩] nss none []]]

def demoRun : Option (List (String × Bool)) :=
  match readXml [C08Read.demoFile] "demo.xsd" with
  | .ok d => (match (runNM (importExtension demoCC ⟨[], []⟩ 50) d).1 with
      | .ok r => some (r.map (fun f => (f.xmlName, f.isAttribute)))
      | .error _ => none)
  | .error _ => none

example : demoRun = some [("id", false), ("code", true), ("note", false), ("flag", true)] := by decide +kernel

end ZeepVerif.Props.C08All
