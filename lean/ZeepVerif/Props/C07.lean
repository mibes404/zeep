/-
C07 — declared facets are enforced at every depth and before anything is sent.
-/
import ZeepVerif.Model.Http
import ZeepVerif.Model.Emit
import ZeepVerif.Props.C06
import ZeepVerif.Lemmas.StepWords

namespace ZeepVerif.Props.C07
open ZeepVerif.Model ZeepVerif.Model.Http ZeepVerif.Runtime ZeepVerif.Generated

/-- the restriction check is the first thing the helper does -/
theorem c07_check_first : helperSteps.head? = some .check ∧ helperSteps[1]? = some .try_ := by
  -- `parseStep`: by `Lemmas/StepWords`
  simp [helperSteps, Send.sendSteps]

theorem run_check_try (env : Env) (h : env.checkOk = false) (rest : List Step) (st : St) :
    run env (.check :: .try_ :: rest) false st = (.errRestriction, { st with pending := some .errRestriction }) := by
  simp [run, h]

/-- a request that fails its check is answered with the restriction error, and nothing has been
    serialised, built or sent: no connection is opened -/
theorem c07_before_io (env : Env) (h : env.checkOk = false) :
    (call env).1 = .errRestriction ∧ (call env).2.sends = 0 ∧ (call env).2.serialized = false ∧
    (call env).2.postBuilt = false := by
  unfold call
  -- for `[]` and `[a]` the type of `c07_check_first` has `none = some _`: the match needs no such case
  match hs : helperSteps, c07_check_first with
  | a :: b :: rest, ⟨h1, h2⟩ =>
    cases Option.some.inj h1; cases Option.some.inj h2
    rw [run_check_try env h]; exact ⟨rfl, rfl, rfl, rfl⟩

/-- every member of a struct is checked: the emitted impl delegates to each field once, in order -/
theorem c07_every_field_checked (p : CProps) :
    writeComplexType p = complexPrefix p ++
      p.fields.map (fun f => "     self." ++ f.rustName ++ ".check_restrictions(restrictions.clone())?;\n") ++
      (["    drop(restrictions);\n", "    Ok(())\n"] ++ writeCheckFooter) := rfl

/-- the emitted check of a restricted simple type (`write_check_restrictions_header` + `write_type_alias`): first the
    facets handed down by a type derived from this one, if any, then its own; `inner` checks its `value` member -/
def emittedSimpleCheck (own : Restr.Restrictions) (inner : Option Restr.Restrictions → Res)
    (incoming : Option Restr.Restrictions) : Res :=
  match (if incoming.isSome then inner incoming else Res.ok) with
  | .ok => inner (some own)
  | e => e

/-- a derivation chain of restricted simple types, most derived first, down to the carrier's own check -/
def chainCheck (leaf : Option Restr.Restrictions → Res) : List Restr.Restrictions → Option Restr.Restrictions → Res
  | [], inc => leaf inc
  | r :: rs, inc => emittedSimpleCheck r (chainCheck leaf rs) inc

theorem emittedSimpleCheck_iff (own : Restr.Restrictions) (inner : Option Restr.Restrictions → Res)
    (inc : Option Restr.Restrictions) :
    emittedSimpleCheck own inner inc = .ok ↔ (∀ i, inc = some i → inner (some i) = .ok) ∧ inner (some own) = .ok := by
  unfold emittedSimpleCheck
  cases inc with
  | none => simp
  | some i => cases h : inner (some i) <;> simp [h]

theorem chain_iff (leaf : Option Restr.Restrictions → Res) (hnone : leaf none = .ok) :
    ∀ (rs : List Restr.Restrictions) (inc : Option Restr.Restrictions),
      chainCheck leaf rs inc = .ok ↔ (∀ i, inc = some i → leaf (some i) = .ok) ∧ ∀ r ∈ rs, leaf (some r) = .ok
  | [], none => by simp [chainCheck, hnone]
  | [], some i => by simp [chainCheck]
  | r :: rs, inc => by
    simp only [chainCheck, emittedSimpleCheck_iff, chain_iff leaf hnone rs, Option.some.injEq, forall_eq', List.forall_mem_cons]
    exact ⟨fun ⟨h1, h2, h3⟩ => ⟨fun i hi => (h1 i hi).1, h2, h3⟩, fun ⟨h1, h2, h3⟩ => ⟨fun i hi => ⟨h1 i hi, h3⟩, h2, h3⟩⟩

/-- facets inherited through derivation: a text value whose integer reading, if any, fits `i128` passes the check of the
    most derived type exactly when it satisfies the facets of every type of the chain (XSD: a derived simple type must
    meet its own facets and those of its base), at any derivation depth -/
theorem c07_derivation_chain (rs : List Restr.Restrictions) (s : String)
    (hfit : ∀ v, lexInt s = some v → inRange "i128" v) :
    chainCheck (fun r => Restr.check_String r s) rs none = .ok ↔
      ∀ r ∈ rs, (C06.facetsOf r).satString s := by
  simp only [chain_iff (fun r => Restr.check_String r s) (C06.check_String_none s), reduceCtorEq, false_implies, implies_true, true_and,
    C06.check_String_sat _ s hfit]

/-! non-vacuity: Tiny (maxLength 2) ⊂ Small (minLength 1): "abc" is rejected by the derived type -/
example : chainCheck (fun r => Restr.check_String r "abc") [{ max_length := some 2 }, { min_length := some 1 }] none ≠ .ok := by
  decide
example : chainCheck (fun r => Restr.check_String r "ab") [{ max_length := some 2 }, { min_length := some 1 }] none = .ok := by
  decide

end ZeepVerif.Props.C07
