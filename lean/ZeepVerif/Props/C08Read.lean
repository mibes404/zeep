/-
C08 as a refinement statement about the monadic reader model: what the reader returns for a complex type derived
by extension from a base that has been read before (declared earlier in the file or handed down by the importer).
-/
import ZeepVerif.Lemmas.ReadDecideX

namespace ZeepVerif.Props.C08Read
open ZeepVerif.Model ZeepVerif.Lemmas.ReadField ZeepVerif.Lemmas.ReadFile
open ZeepVerif.Lemmas.ReadExt ZeepVerif.Lemmas.ReadDecideX

theorem foldl_append_if {α β : Type} (p : α → Bool) (f : α → List β) : (l : List α) → (init : List β) →
    l.foldl (fun s n => if p n then s ++ f n else s) init = init ++ (l.filter p).flatMap f :=
  fun l init => by rw [← List.foldl_filter, List.foldl_append_eq_append, List.flatMap_def]

/-- base members first, then own elements, then own attributes: with one `sequence` in the extension (what XSD
    allows), the fields the reader computes for the derived type are the fields of the base's struct description, in
    their order, then one per member site of the extension, then one per attribute of the extension -/
theorem c08_fields_order (d : Doc) (anc : List XNode) (cc ext : XNode) (bn : RNode)
    (hone : (ext.elemKids.filter (fun n => n.tag == "sequence")).length = 1) :
    extFields d anc cc ext bn =
      baseFieldsOf bn ++ (memberSites ext (cc :: anc)).map (fun st => plainField d st.1 st.2) ++
        (ext.elemKids.filter (fun n => n.tag == "attribute")).map (fun a => plainField d a (ext :: cc :: anc)) := by
  unfold extFields
  have e1 := foldl_append_if (fun n : XNode => n.tag == "sequence")
    (fun _ => (memberSites ext (cc :: anc)).map (fun st => plainField d st.1 st.2)) ext.elemKids (baseFieldsOf bn)
  have e2 := fun init => foldl_append_if (fun n : XNode => n.tag == "attribute") (fun a => [plainField d a (ext :: cc :: anc)]) ext.elemKids init
  simp only at e1 e2 ⊢
  rw [e1, e2]
  obtain ⟨x, hl⟩ := List.length_eq_one_iff.mp hone
  rw [hl, ← List.map_eq_flatMap]
  simp [List.flatMap_cons]

/-- the reader on a `complexType` node, derived or not: the fold of `complexStepX` (for a `complexContent` child:
    `extFields`, i.e. the statement above) — in any document state in which the base has been read -/
theorem c08_type_read (node : XNode) (ctx : Ctx) (fuel : Nat) (d : Doc) (name : String)
    (hname : node.attr? "name" = some name ∨
      (node.attr? "name" = none ∧ (ctx.ancestors.head?.bind fun x => x.attr? "name") = some name))
    (hc : d.collectNamespaces node.nss = d)
    (h : ∀ k ∈ node.elemKids, PlainChildX d (node :: ctx.ancestors) k) :
    runNM (complexFromNode node ctx (fuel + 4)) d =
      (.ok (node.elemKids.foldl (complexStepX d name (node :: ctx.ancestors))
          { xmlName := name, fields := [], tns := d.current, comment := parseComment node }), d) :=
  complexFromNode_X node ctx fuel d name hname hc h

/-- a whole schema file with derivation: complex types plain or derived from a type declared earlier in the file,
    simple types by restriction, typed and anonymous global elements — `read_xml` returns one node per component,
    each read in the document that holds the earlier ones. The hypothesis is evaluated by `zvdrv plainfile`. -/
theorem c08_file_read (xf : XFile) (h : coveredFileXB xf = true) :
    ∃ schema tns, xf.tops = some [schema] ∧ readXml [xf] xf.name =
      .ok { fileDoc schema tns with
            nodes := nodesFrom (fileDoc schema tns) [schema] schema.kids (fileDoc schema tns).nodes } :=
  readXml_of_coveredFileXB xf h

/-! non-vacuity: a base and a type derived from it -/
def demoFile : XFile :=
  let nss : List (Option String × String) := [(some "xs", "http://www.w3.org/2001/XMLSchema"), (some "tns", "urn:demo")]
  let el (n t : String) : XNode := .elem "element" [⟨"name", none, n⟩, ⟨"type", none, t⟩] nss none []
  { name := "demo.xsd", urls := [],
    tops := some [.elem "schema" [⟨"targetNamespace", none, "urn:demo"⟩] nss none [
      .elem "complexType" [⟨"name", none, "Base"⟩] nss none [.elem "sequence" [] nss none [el "id" "xs:int"],
        .elem "attribute" [⟨"name", none, "code"⟩, ⟨"type", none, "xs:string"⟩] nss none []],
      .other,
      .elem "complexType" [⟨"name", none, "Derived"⟩] nss none [
        .elem "complexContent" [] nss none [.elem "extension" [⟨"base", none, "tns:Base"⟩] nss none [
          .elem "sequence" [] nss none [el "note" "xs:string"],
          .elem "attribute" [⟨"name", none, "flag"⟩, ⟨"type", none, "xs:boolean"⟩] nss none []]]]]] }

example : coveredFileXB demoFile = true := by decide +kernel

end ZeepVerif.Props.C08Read
