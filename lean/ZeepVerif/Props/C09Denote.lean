/-
C09 for every input, content level: what `find_node_by_xml_name` answers a reference with (`Denotes`).
-/
import ZeepVerif.Props.DocAll
import ZeepVerif.Props.C09All

namespace ZeepVerif.Props.C09Denote
open ZeepVerif.Model ZeepVerif.Lemmas.Keeps Std.Do ZeepVerif.Props.DocAll ZeepVerif.Props.CpxAll

/-- what a reference `(x, ns, kind)` may be answered with: a component read before — called `x`, in exactly the wanted namespace, of
    the wanted kind — or the reading of the first global component of the XML tree that a `schema` of the wanted namespace declares
    under that name with a tag of the wanted kind -/
def Denotes (ctx : Ctx) (x : String) (ns : Option Ns) (k : Kind) (rn : RNode) : Prop :=
  (rn.rtype.xmlName = some x ∧ rn.inNs = ns ∧ k.matchesType rn.rtype = true) ∨
  (∃ (d : Doc) (n : XNode) (anc : List XNode) (schema : XNode) (nm : String),
      findGlobalComponent ctx d x ns k = some (n, anc) ∧ (n, anc) ∈ ctx.allElems ∧
      anc.head? = some schema ∧ schema.tag = "schema" ∧ k.matchesTag n.tag = true ∧
      (∀ w t, ns = some w → schema.attr? "targetNamespace" = some t → w.uri = t) ∧
      n.attr? "name" = some nm ∧ (resolveType d nm).1 = x ∧
      NodeOf n anc rn.rtype)

theorem fnd_denotes (ctx : Ctx) (x : String) (ns : Option Ns) (k : Kind) (fuel : Nat) :
    ⦃fun _ => ⌜True⌝⦄ findNodeByXmlName ctx x ns k fuel
    ⦃post⟨fun r _ => ⌜∀ rn, r = some rn → Denotes ctx x ns k rn⌝, fun _ _ => ⌜True⌝⟩⦄ :=
  (C09All.fnd_full (T := fun n c rt => NodeOf n c.ancestors rt) tfn_spec ctx x ns k fuel).mono fun _ h rn hrn =>
    (h rn hrn).imp id fun ⟨d, n, anc, hfind, hno⟩ =>
      let ⟨hm, schema, nm, h1, h2, h3, h4, h5, h6⟩ := findGlobalComponent_some hfind
      ⟨d, n, anc, schema, nm, hfind, hm, h1, h2, h3, h4, h5, h6, hno⟩

/-- C09: whatever `find_node_by_xml_name` answers a reference with `Denotes` it. Never a local element, a message part, or
    (when the reference has a namespace and the declaring `schema` a `targetNamespace`) a component of another namespace. -/
theorem c09_reference_denotes_all_inputs (ctx : Ctx) (x : String) (ns : Option Ns) (k : Kind) (fuel : Nat) (d : Doc) (rn : RNode)
    (h : (runNM (findNodeByXmlName ctx x ns k fuel) d).1 = .ok (some rn)) : Denotes ctx x ns k rn :=
  Returns.run (fnd_denotes ctx x ns k fuel) h rn rfl

/-- in the second case a complex type found for `x` is called by the `name` attribute whose local part is `x` -/
theorem c09_forward_component_name (ctx : Ctx) (x : String) (ns : Option Ns) (k : Kind) (rn : RNode) (p : CProps)
    (h : Denotes ctx x ns k rn) (hp : rn.rtype = .complex p) :
    p.xmlName = x ∨ ∃ d nm, (resolveType d nm).1 = x ∧ p.xmlName = nm := by
  rcases h with ⟨h1, _, _⟩ | ⟨d, n, anc, schema, nm, _, _, _, _, _, _, hn, hx, hno⟩
  · left; rw [hp] at h1; simpa [RType.xmlName] using h1
  · right
    rw [hp] at hno
    have := hno.2.1
    simp only [nameOf, hn] at this
    exact ⟨d, nm, hx, by simpa using this.symm⟩

/-! non-vacuity: in the document read from the demonstration file of `C08Read`, the reference (`Base`, the file's namespace, type) is
    answered, and with the component of that name -/
def demoAnswer : Option (Option String) :=
  match readXml [C08Read.demoFile] "demo.xsd" with
  | .ok d => (match (runNM (findNodeByXmlName ⟨[], []⟩ "Base" d.current .type 10) d).1 with
      | .ok (some rn) => some rn.rtype.xmlName
      | _ => none)
  | .error _ => none

example : demoAnswer = some (some "Base") := by decide +kernel

end ZeepVerif.Props.C09Denote
