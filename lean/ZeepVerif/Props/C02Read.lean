/-
C02, reader side, as refinement statements about the monadic reader model (`Model.Reader`, the transcription of
reader.rs / node.rs / field.rs / structures/complex.rs that is byte-exact with the implementation on every input
of every run): what the reader returns, in closed form, for member declarations, content models, complex types
and whole schema files of the plain fragment (complex types without derivation whose members are named, typed
declarations); for files of every covered component kind; the whole generator on the fragment with derivation; the
plain complex types of the grammar against the reference elaboration.
-/
import ZeepVerif.Lemmas.ReadField
import ZeepVerif.Lemmas.ReadFile
import ZeepVerif.Lemmas.ReadDecide
import ZeepVerif.Lemmas.ReadSpec
import ZeepVerif.Lemmas.WriteDoc

namespace ZeepVerif.Props.C02Read
open ZeepVerif.Model ZeepVerif.Spec ZeepVerif.Lemmas.ReadField ZeepVerif.Lemmas.ReadFile ZeepVerif.Lemmas.ReadDecide
open ZeepVerif.Lemmas.ReadSpec ZeepVerif.Lemmas.Flatten ZeepVerif.Lemmas.ReadComp

/-- a member declaration becomes exactly one field: its XML name, the snake_case field name, the Rust type of its
    `type` attribute, the occurrence flags of `occurrence`, the current target namespace — and reading it does
    not change the document -/
theorem c02_member_read (node : XNode) (ctx : Ctx) (fuel : Nat) (d : Doc) (h : PlainDecl node) :
    runNM (fieldFromNode node ctx (fuel + 1)) d = (.ok (plainField d node ctx.ancestors), d) :=
  fieldFromNode_plain node ctx fuel d h

/-- a content model becomes one field per member site, in document order: nothing dropped, nothing added -/
theorem c02_content_read (node : XNode) (ctx : Ctx) (acc : List Field) (fuel : Nat) (d : Doc)
    (h : ∀ s ∈ memberSites node ctx.ancestors, PlainDecl s.1) :
    runNM (importSequence node ctx acc (fuel + 2)) d =
      (.ok (acc ++ (memberSites node ctx.ancestors).map (fun s => plainField d s.1 s.2)), d) :=
  importSequence_plain node ctx acc fuel d h

/-- a complex type without derivation becomes the struct description `complexStep` folds together: the fields of
    its `sequence`, then one per `attribute` (the fold is `ReadFile.complexOf`, unfolded) -/
theorem c02_type_read (node : XNode) (ctx : Ctx) (fuel : Nat) (d : Doc) (name : String)
    (hname : node.attr? "name" = some name ∨
      (node.attr? "name" = none ∧ (ctx.ancestors.head?.bind fun x => x.attr? "name") = some name))
    (h : ∀ k ∈ node.elemKids, PlainChild (node :: ctx.ancestors) k) :
    runNM (complexFromNode node ctx (fuel + 3)) d =
      (.ok (node.elemKids.foldl (complexStep (d.collectNamespaces node.nss) name (node :: ctx.ancestors))
          { xmlName := name, fields := [], tns := (d.collectNamespaces node.nss).current, comment := parseComment node }),
       d.collectNamespaces node.nss) :=
  ZeepVerif.Lemmas.ReadExt.complexFromNode_plain node ctx fuel d name hname h

/-- a whole schema file: `read_xml` returns one node per `complexType`, in document order, each with exactly
    the fields of its content and attributes, all in the namespace state the root element alone determines.
    The hypothesis is a Boolean that `zvdrv plainfile` evaluates on the real parse. -/
theorem c02_file_read (xf : XFile) (h : plainFileB xf = true) :
    ∃ schema tns, xf.tops = some [schema] ∧ readXml [xf] xf.name =
      .ok { fileDoc schema tns with
            nodes := (fileDoc schema tns).nodes ++ schema.kids.filterMap (nodeOf (fileDoc schema tns) [schema]) } :=
  readXml_of_plainFileB xf h

/-- a whole schema file of complex types without derivation, simple types by restriction, typed global elements and
    global elements with an anonymous complex type, in any number and order: `read_xml` returns one node per
    component in document order. With derivation: `C08Read.c08_file_read`. -/
theorem c02_file_read_general (xf : XFile) (h : coveredFileB xf = true) :
    ∃ schema tns, xf.tops = some [schema] ∧ readXml [xf] xf.name =
      .ok { fileDoc schema tns with
            nodes := (fileDoc schema tns).nodes ++ schema.kids.filterMap (nodeOfC (fileDoc schema tns) [schema]) } :=
  readXml_of_coveredFileB xf h

/-- the whole generator on the covered fragment (derivation from an earlier base included): `read_xml` followed by
    `write_xml` yields the fixed prelude, one module per target namespace holding the text of exactly the nodes of
    that namespace in document order, and the fixed runtime -/
theorem c02_generator_closed_form (xf : XFile) (h : ZeepVerif.Lemmas.ReadDecideX.coveredFileXB xf = true) :
    ∃ schema tns, xf.tops = some [schema] ∧
      let doc : Doc := { fileDoc schema tns with nodes := ZeepVerif.Lemmas.ReadExt.nodesFrom (fileDoc schema tns) [schema] schema.kids (fileDoc schema tns).nodes }
      (readXml [xf] xf.name).bind writeDoc =
        .ok ([Generated.Tables.headerText] ++ doc.targetNamespaces.flatMap (ZeepVerif.Lemmas.WriteDoc.moduleChunks doc) ++
          (doc.nodes.filter (fun n => n.inNs.isNone)).flatMap writeNode ++ [Generated.Tables.helpersText]) :=
  ZeepVerif.Lemmas.WriteDoc.generator_closed_form xf h

/-- in-scope declarations that were collected once add nothing when they are met again on a descendant -/
theorem c02_declarations_idempotent (d : Doc) (nss : List (Option String × String)) :
    (d.collectNamespaces nss).collectNamespaces nss = d.collectNamespaces nss :=
  collectNamespaces_again _ nss (collectNamespaces_absorbs d nss)

/-- against the reference: take any complex type definition of the grammar without element references (any nesting
    of sequences and choices, occurrence values up to 2^64-1, any attributes), render it as the tree the generator
    sees when it has no base and no documentation (`ComplexDef.toX`; compared with the real parse of the printed text on
    every run); the struct description the reader returns for it has, member by member, the XML name, the wrapper and
    the attribute flag of `Spec.Ref`: the flattened elements, then the attributes. `ComplexDef.toX` does not render
    `cd.base`: for a definition with a base both sides hold its own members only. -/
theorem c02_type_read_matches_reference (s : SchemaSet) (f : SchemaFile) (d : Doc) (cd : ComplexDef) (name : String)
    (nss : List (Option String × String)) (anc : List XNode)
    (hnr : ∀ o ps, cd.content = some (o, ps) → NoRefs ps ∧ PartsOk ps ∧ OccOk o) :
    (complexOf d (cd.toX f name nss) anc name).fields.map fieldObs =
      (Ref.ownElements s f cd ++ cd.attrs.map (Ref.attrField s)).map refObs :=
  complex_read_matches_ref s f d cd name nss anc hnr

/-- … and in that tree the member sites of the `sequence` are plain declarations: the `sequence` part of the
    hypothesis of `c02_type_read` -/
theorem c02_rendered_type_is_plain (f : SchemaFile) (cd : ComplexDef) (name : String)
    (nss : List (Option String × String)) (anc : List XNode) (o : Occurs) (ps : List Particle)
    (hc : cd.content = some (o, ps)) (hn : NoRefs ps) :
    ∀ st ∈ memberSites (XNode.elem "sequence" (occAttrs o) [] none (particlesToX f ps)) (cd.toX f name nss :: anc), PlainDecl st.1 := by
  intro st hst
  simp only [memberSites] at hst
  exact (sites_particles f ps hn _).1 st hst

/-! non-vacuity: a file with two complex types (nested sequence and choice, an attribute) meets the hypothesis -/
def demoFile : XFile :=
  let nss : List (Option String × String) := [(some "xs", "http://www.w3.org/2001/XMLSchema"), (some "tns", "urn:demo")]
  let el (n t : String) (extra : List XAttr) : XNode := .elem "element" ([⟨"name", none, n⟩, ⟨"type", none, t⟩] ++ extra) nss none []
  { name := "demo.xsd", urls := [],
    tops := some [.elem "schema" [⟨"targetNamespace", none, "urn:demo"⟩] nss none [
      .other,
      .elem "complexType" [⟨"name", none, "Order"⟩] nss none [
        .other,
        .elem "sequence" [] nss none [.other, el "id" "xs:int" [], .other,
          .elem "choice" [⟨"minOccurs", none, "0"⟩] nss none [el "a" "xs:string" [], el "b" "tns:Item" [⟨"maxOccurs", none, "unbounded"⟩]], .other],
        .elem "attribute" [⟨"name", none, "code"⟩, ⟨"type", none, "xs:string"⟩] nss none [], .other],
      .other,
      .elem "complexType" [⟨"name", none, "Item"⟩] nss none [.elem "sequence" [] nss none [el "name" "xs:string" []]],
      .other]] }

example : plainFileB demoFile = true := by decide +kernel

def demoFile2 : XFile :=
  let nss : List (Option String × String) := [(some "xs", "http://www.w3.org/2001/XMLSchema"), (some "tns", "urn:demo")]
  let el (n t : String) : XNode := .elem "element" [⟨"name", none, n⟩, ⟨"type", none, t⟩] nss none []
  { name := "demo2.xsd", urls := [],
    tops := some [.elem "schema" [⟨"targetNamespace", none, "urn:demo"⟩] nss none [
      .elem "simpleType" [⟨"name", none, "Code"⟩] nss none [.elem "restriction" [⟨"base", none, "xs:string"⟩] nss none [
        .elem "maxLength" [⟨"value", none, "3"⟩] nss none []]],
      .other,
      .elem "element" [⟨"name", none, "order"⟩] nss none [.elem "complexType" [] nss none [.elem "sequence" [] nss none [el "code" "tns:Code"]]],
      .elem "element" [⟨"name", none, "alias"⟩, ⟨"type", none, "tns:Order"⟩] nss none [],
      .elem "complexType" [⟨"name", none, "Order"⟩] nss none [.elem "sequence" [] nss none [el "id" "xs:int"]]]] }

example : coveredFileB demoFile2 = true := by decide +kernel

end ZeepVerif.Props.C02Read
