/-
C03 — serialized values are schema-conformant, namespace-well-formed XML.
The struct-level facts the yaserde wire form rests on; the run-time side is `Props/C03Ya`.
-/
import ZeepVerif.Model.Emit
import ZeepVerif.Lemmas.DocOps

namespace ZeepVerif.Props.C03
open ZeepVerif.Model

theorem usedNamespaces_mono (fs : List Field) (acc : List Ns) (x : Ns) (hx : x ∈ acc) :
    x ∈ (fs.filter (fun f => !f.isAttribute)).foldl
      (fun acc f => match f.tns with
        | some ns => if acc.any (fun u => u.abbreviation == ns.abbreviation) then acc else acc ++ [ns]
        | none => acc) acc :=
  (foldl_prefix (fun acc f => by
    split
    · split
      · exact List.prefix_rfl
      · exact List.prefix_append ..
    · exact List.prefix_rfl) _ acc).subset hx

/-- every prefix used by an element member of a struct is declared on that struct: by the member's own namespace
    record, or one with the same abbreviation (abbreviations determine the URI, C10) -/
theorem c03_prefixes_declared (tns : Ns) (fs : List Field) (f : Field) (hf : f ∈ fs) (ha : f.isAttribute = false)
    (ns : Ns) (hns : f.tns = some ns) :
    ∃ u ∈ usedNamespaces tns fs, u.abbreviation = ns.abbreviation := by
  -- whatever came before `f`, at `f` the namespace is there or is put there, and after `f` it stays
  obtain ⟨l1, l2, rfl⟩ := List.append_of_mem hf
  simp only [usedNamespaces, List.filter_append, List.filter_cons, ha, Bool.not_false, if_true, List.foldl_append,
    List.foldl_cons, hns]
  split
  next hany =>
    obtain ⟨u, hu, he⟩ := List.any_eq_true.mp hany
    exact ⟨u, usedNamespaces_mono l2 _ u hu, beq_iff_eq.mp he⟩
  next => exact ⟨ns, usedNamespaces_mono l2 _ ns (List.mem_append_right _ List.mem_cons_self), rfl⟩

/-- the struct's own prefix is declared on it too -/
theorem c03_own_prefix_declared (tns : Ns) (fs : List Field) : tns ∈ usedNamespaces tns fs := by
  unfold usedNamespaces
  exact usedNamespaces_mono fs [tns] tns (by simp)

/-- an attribute member is written without a prefix (unqualified), whatever namespace its schema has -/
theorem c03_attribute_unqualified (f : Field) (h : f.isAttribute = true) :
    (writeField f).head? = some ("    #[yaserde(rename = " ++ rustDebugStr f.xmlName ++ ", attribute = true" ++ ")]\n") := by
  simp [writeField, h]

/-- an element member is labelled with the prefix of the namespace that declared it and its XML name -/
theorem c03_element_label (f : Field) (ns : Ns) (h : f.isAttribute = false) (hns : f.tns = some ns) :
    (writeField f).head? = some ("    #[yaserde(prefix = " ++ rustDebugStr ns.abbreviation ++ ", rename = " ++ rustDebugStr f.xmlName ++ "" ++ ")]\n") := by
  simp [writeField, h, hns]

/-- members are written in declaration order (the order of the field list), each exactly once -/
theorem c03_declaration_order (p : CProps) :
    complexPrefix p = complexHead p ++ p.fields.flatMap writeField ++
      (["}\n"] ++ writeCheckHeader (xmlNameToRustName p.xmlName) none) := rfl

/-! non-vacuity: a struct of namespace `a` with an inherited member of namespace `b` declares both -/
example : (usedNamespaces ⟨"urn:a", "a", "mod_a"⟩
    [⟨"x", "x", .string, false, false, some ⟨"urn:b", "b", "mod_b"⟩, false, false, false⟩]).map (·.abbreviation) = ["a", "b"] := by
  decide

end ZeepVerif.Props.C03
