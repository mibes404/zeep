/-
C09 for every input (no hypothesis on trees, file table, import graph or fuel): what a prefix denotes at some point of the
read it denotes after any amount of further reading, imports included (`file_keeps` with `Doc.Grows`). Second half: the result
specifications of `RustNode::try_from_node` and `find_node_by_xml_name` relative to their callees, and `fnd_kind`.
-/
import ZeepVerif.Lemmas.KeepsFile
import ZeepVerif.Lemmas.Returns
import ZeepVerif.Props.C11Demo

namespace ZeepVerif.Props.C09All
open ZeepVerif.Model ZeepVerif.Lemmas.Keeps ZeepVerif.Lemmas.KeepsFile

theorem grows_fileRel : FileRel Doc.Grows where
  inv _ := {
    addRef := fun d a u h => h.trans (d.grows_addRef a u)
    addDefault := fun d u h => h.trans (d.grows_addDefault u)
    switch := fun d ns h => h.trans (d.grows_switch ns)
    push := fun _ _ h => ⟨h.1, h.2, h.3⟩
    pop := fun _ h => ⟨h.1, h.2, h.3⟩ }
  refl _ _ := .refl _
  nodes _ _ _ h _ _ := ⟨h.1, h.2, h.3⟩
  messages _ _ _ h := ⟨h.1, h.2, h.3⟩
  ports _ _ _ h := ⟨h.1, h.2, h.3⟩
  bindings _ _ _ h := ⟨h.1, h.2, h.3⟩
  services _ _ _ h := ⟨h.1, h.2, h.3⟩
  imported _ d imp h _ := h.trans (d.grows_extend imp)

/-- reading a schema never rebinds a prefix: what `p` denotes before `read_xsd` runs over a schema element it denotes in the
    document `read_xsd` returns, whatever the schema contains and imports -/
theorem c09_read_xsd_keeps_bindings (files : String → Option XFile) (file : XFile) (all : List (XNode × List XNode))
    (schema : XNode) (anc : List XNode) (d : Doc) (fuel : Nat) (st : RS) (d' : Doc) (st' : RS)
    (h : (readXsd files file all schema anc d fuel).run st = .ok (d', st')) (p : String) (n : Ns)
    (hp : lookupNs d p = some n) : lookupNs d' p = some n :=
  lookupNs_mono ((fm_run_of_triple ((file_keeps grows_fileRel files fuel).xsd file all schema anc d d (.refl d)) trivial).1 d' st' h) hp

theorem c09_try_from_node_keeps_bindings (node : XNode) (ctx : Ctx) (fuel : Nat) (d : Doc) (p : String) (n : Ns)
    (hp : lookupNs d p = some n) : lookupNs (runNM (tryFromNode node ctx fuel) d).2 p = some n :=
  lookupNs_mono (((block_keeps (grows_fileRel.inv d) fuel).tfn node ctx).run d (.refl d)) hp

theorem collect_binds (nss : List (Option String × String)) (p u : String) :
    ∀ (d : Doc), (some p, u) ∈ nss → (∀ q v, (some q, v) ∈ nss → q = p → v = u) → p.isEmpty = false → u.isEmpty = false →
    Generated.Tables.wellKnownNamespaces.contains u = false → (lookupNs d p = none ∨ ∃ n, lookupNs d p = some n ∧ n.uri = u) →
    ∃ n, lookupNs (d.collectNamespaces nss) p = some n ∧ n.uri = u := by
  -- once bound to `u`, always bound to `u`
  have hkeep : ∀ nss (d : Doc), (∃ n, lookupNs d p = some n ∧ n.uri = u) → ∃ n, lookupNs (d.collectNamespaces nss) p = some n ∧ n.uri = u :=
    fun nss d ⟨n, hn, hu⟩ => ⟨n, lookupNs_mono (d.grows_collect nss) hn, hu⟩
  induction nss with
  | nil => intro d hm; cases hm
  | cons e rest ih =>
    intro d hm huniq hpe hue hwk hd
    rcases hd with hn | hb
    · -- still unbound: the first declaration binds `p` if it is one of `p`, and leaves it unbound if not
      have huniq' := fun q v hq => huniq q v (List.mem_cons_of_mem _ hq)
      obtain ⟨e1, e2⟩ := e
      show ∃ n, lookupNs (Doc.collectNamespaces _ rest) p = some n ∧ n.uri = u
      cases e1 with
      | none =>
        exact ih _ (by simpa using hm) huniq' hpe hue hwk (Or.inl (by rw [lookupNs_addDefault e2 hpe]; exact hn))
      | some a =>
        by_cases hap : a = p
        · obtain rfl : e2 = u := huniq a e2 (by simp) hap
          subst hap
          exact hkeep rest _ (lookupNs_addRef_self hpe hue hwk hn)
        · exact ih _ (by simpa [Ne.symm hap] using hm) huniq' hpe hue hwk (Or.inl (by rw [lookupNs_addRef_ne e2 hap hpe]; exact hn))
    · exact hkeep _ d hb

/-- a prefix declared on the root element of the start file (for one URI, not empty and not well known) denotes, in the document
    `read_xml` returns, the namespace with that URI, whatever the file imports (imported files may bind the same prefix to
    their own namespaces) -/
theorem c09_root_prefix_denotes (files : List XFile) (start : String) (fuel : Nat) (d : Doc)
    (h : readXml files start (fuel + 1) = .ok d)
    (file : XFile) (tops : List XNode) (root : XNode)
    (hf : fileTable files start = some file) (ht : file.tops = some tops)
    (hroot : tops.find? (fun x => XNode.isElem x) = some root)
    (p u : String) (hm : (some p, u) ∈ root.nss) (huniq : ∀ e ∈ root.nss, e.1 = some p → e.2 = u)
    (hpe : p.isEmpty = false) (hue : u.isEmpty = false)
    (hwk : Generated.Tables.wellKnownNamespaces.contains u = false) :
    ∃ n, lookupNs d p = some n ∧ n.uri = u := by
  obtain ⟨file', tops', hf', ht', hk⟩ := (readXmlOn_of_triple
    (int_from_root grows_fileRel .refl (fileTable files) start [] [] fuel) {} List.not_mem_nil).1 d h
  obtain rfl := Option.some.inj (hf.symm.trans hf')
  obtain rfl := Option.some.inj (ht.symm.trans ht')
  have hb : ∃ n, lookupNs (Lemmas.FileSteps.rootDoc tops [] []) p = some n ∧ n.uri = u := by
    unfold Lemmas.FileSteps.rootDoc
    rw [hroot]
    exact collect_binds root.nss p u (startDoc [] []) hm (fun q v hq hqp => huniq (some q, v) hq (by simp [hqp])) hpe hue hwk (Or.inl (by simp [lookupNs, hpe, startDoc]))
  obtain ⟨n, hn, hu⟩ := hb
  exact ⟨n, lookupNs_mono hk hn, hu⟩

/-! non-vacuity: in the cyclic file set of `Props/C11Demo` both files bind `tns`, `a.xsd` to `urn:a` and `b.xsd` to `urn:b`; in the
    document read `tns` denotes `urn:a`, the start file's binding -/
example : ∃ d n, readXml C11Read.demoCycle "a.xsd" = .ok d ∧ lookupNs d "tns" = some n ∧ n.uri = "urn:a" := by
  obtain ⟨r, _, hd⟩ := C11Read.demoCycle_read
  obtain ⟨n, hn, hu⟩ := c09_root_prefix_denotes C11Read.demoCycle "a.xsd" 9999 r.1 hd
    (C11Read.demoCycle.headD default) ((C11Read.demoCycle.headD default).tops.getD []) (((C11Read.demoCycle.headD default).tops.getD []).headD .other)
    rfl rfl rfl "tns" "urn:a" (by decide) (by decide) (by decide) (by decide) (by decide)
  exact ⟨r.1, n, hd, hn, hu⟩

end ZeepVerif.Props.C09All

namespace ZeepVerif.Props.C09All
open ZeepVerif.Model ZeepVerif.Lemmas.Keeps Std.Do

set_option mvcgen.warning false

/-- `C`, `E`, `S`: what is known of the description the complex type, element and simple type readers return for the node -/
def NodeOfP (C : CProps → Prop) (E : EProps → Prop) (S : SProps → Prop) (tag : String) : RType → Prop
  | .complex p => (tag = "complexType" ∨ tag = "group") ∧ C p
  | .simple p => tag = "simpleType" ∧ S p
  | .element p => tag = "element" ∧ E p
  | .ignore => tag ≠ "complexType" ∧ tag ≠ "group" ∧ tag ≠ "simpleType" ∧ tag ≠ "element"

theorem tfn_full {C E S} {node : XNode} {ctx : Ctx} (hcpx : ∀ fuel, Returns (complexFromNode node ctx fuel) C)
    (helt : ∀ fuel, Returns (elementFromNode node ctx fuel) E) (hsimple : Returns (simpleFromNode node) S) :
    ∀ fuel, Returns (tryFromNode node ctx fuel) (fun r => NodeOfP C E S node.tag r.rtype)
  | 0 => Returns.throw _
  | fuel + 1 => by
    have hcpx := hcpx fuel
    have helt := helt fuel
    mvcgen -trivial [tryFromNode, switchToTargetNamespace, collectNamespacesOnNode, modifyDoc, getDoc, hcpx, helt, hsimple]
    -- every path occurs twice: the first `h_1`/`h_2` are the arms of `if let some tns := node.attr? "targetNamespace"`
    case vc1.isFalse.h_1.h_1.success | vc6.isFalse.h_2.h_1.success => exact ⟨Or.inl ‹_›, ‹_›⟩
    case vc2.isFalse.h_1.h_2.success | vc7.isFalse.h_2.h_2.success => exact ⟨Or.inr ‹_›, ‹_›⟩
    case vc5.isFalse.h_1.h_5 | vc10.isFalse.h_2.h_5 => rename_i t h1 h2 h3 h4 ht; subst ht; exact ⟨h1, h2, h3, h4⟩
    all_goals exact ⟨‹_›, ‹_›⟩

theorem NodeOfP.kind {C E S tag rt} {k : Kind} (h : NodeOfP C E S tag rt) (htag : k.matchesTag tag = true) : k.matchesType rt = true := by
  cases k <;> cases rt <;> simp_all [NodeOfP, Kind.matchesTag, Kind.matchesType]

theorem fnd_full {T : XNode → Ctx → RType → Prop} (htfn : ∀ n c fuel, Returns (tryFromNode n c fuel) (fun r => T n c r.rtype))
    (ctx : Ctx) (x : String) (ns : Option Ns) (k : Kind) : ∀ fuel, Returns (findNodeByXmlName ctx x ns k fuel) (fun r => ∀ rn, r = some rn →
      (rn.rtype.xmlName = some x ∧ rn.inNs = ns ∧ k.matchesType rn.rtype = true) ∨
      ∃ d n anc, findGlobalComponent ctx d x ns k = some (n, anc) ∧ T n { ctx with ancestors := anc } rn.rtype)
  | 0 => Returns.throw _
  | fuel + 1 => by
    have hok := fun n c => returns_okOrNone (htfn n c fuel)
    mvcgen -trivial [findNodeByXmlName, modifyDoc, getDoc, hok]
    all_goals (try intros)
    case vc1.h_1 =>
      rename_i _ nn hs rn hrn
      cases hrn
      exact Or.inl (lookupRead_some hs).2
    case vc2.h_2.h_1 => rename_i h; cases h
    case vc3.h_2.h_2.isTrue => rename_i h; cases h
    case vc4.h_2.h_2.isFalse.success =>
      rename_i d _ n anc hfind _ _ _ r _ hk _ rn hrn
      exact Or.inr ⟨d, n, anc, hfind, hk rn hrn⟩

/-- a lookup never returns a component of another kind: for a type reference a complex or simple type, for an element reference a
    global element, whether found among the components read so far or built from the tree for a forward reference -/
theorem fnd_kind (ctx : Ctx) (x : String) (ns : Option Ns) (k : Kind) (fuel : Nat) :
    ⦃fun _ => ⌜True⌝⦄ findNodeByXmlName ctx x ns k fuel
    ⦃post⟨fun r _ => ⌜∀ rn, r = some rn → k.matchesType rn.rtype = true⌝, fun _ _ => ⌜True⌝⟩⦄ :=
  (fnd_full (T := fun n _ rt => NodeOfP (fun _ => True) (fun _ => True) (fun _ => True) n.tag rt)
    (fun n c => tfn_full (fun _ => keeps_true _) (fun _ => keeps_true _) (keeps_true _)) ctx x ns k fuel).mono fun _ h rn hrn => by
    rcases h rn hrn with h | ⟨_, _, _, hf, hn⟩
    · exact h.2.2
    · obtain ⟨_, _, _, _, _, ht, _⟩ := findGlobalComponent_some hf
      exact hn.kind ht

/-- the same as a statement about a run -/
theorem c09_lookup_kind_all_inputs (ctx : Ctx) (x : String) (ns : Option Ns) (k : Kind) (fuel : Nat) (d : Doc) (rn : RNode)
    (h : (runNM (findNodeByXmlName ctx x ns k fuel) d).1 = .ok (some rn)) : k.matchesType rn.rtype = true :=
  Returns.run (fnd_kind ctx x ns k fuel) h rn rfl

end ZeepVerif.Props.C09All
