/-
C16 — one POST per call; 4xx/5xx and unparsable replies are errors, never values.
Theorems about the interpreter of the helper body that the translator extracts from helpers_content.rs
on every run (`Generated.Send.sendSteps`), for every environment.
-/
import ZeepVerif.Lemmas.StepWords

namespace ZeepVerif.Props.C16
open ZeepVerif.Model.Http ZeepVerif.Generated

/-- the extracted body contains no step the interpreter does not know -/
theorem c16_all_steps_modelled : helperSteps.all (fun s => match s with | .unknown _ => false | _ => true) = true := by
  simp [helperSteps, Send.sendSteps]

/-- What a call does, as far as C16 speaks of it: the request fails its check or does not serialise, nothing is sent and
    that error is returned; or exactly one POST goes out, with the envelope and the credentials if any, and the reply
    decides the outcome. The statements below are projections. Which of check and serialisation comes first is
    `C07.c07_before_io`. -/
theorem call_spec (env : Env) :
    if env.checkOk = true ∧ env.serOk = true then
      (call env).2.sends = 1 ∧ (call env).2.postBuilt = true ∧ (call env).2.bodySet = true ∧
      (call env).2.authSet = env.creds ∧
      (call env).1 = match env.transport with
        | .response s true => if 400 ≤ s ∧ s < 600 then .errHttp else if env.deOk then .value else .errYaserde
        | _ => .errHttp
    else
      (call env).2.sends = 0 ∧
      ((call env).1 = .errRestriction ∧ env.checkOk = false ∨ (call env).1 = .errYaserde ∧ env.serOk = false) := by
  obtain ⟨ck, se, cr, tr, de⟩ := env
  -- closes the three cases with a failed check or serialisation (the run ends at the `?` behind it) and leaves
  -- `ck = se = true`. `parseStep`: by `Lemmas/StepWords`.
  cases ck <;> cases se <;> simp [call, helperSteps, Send.sendSteps, run]
  -- `simp [run]` closes `refused` and `closed`; the four `response` cases, where `s` is bound, keep an `if` on the status
  cases cr <;> rcases tr with _ | _ | ⟨s, _ | _⟩ <;> simp [run] <;>
    by_cases h : 400 ≤ s ∧ s < 600 <;> cases de <;> simp [h]

/-- at most one request per call, and exactly one when the request passed its check and serialised -/
theorem c16_one_post (env : Env) :
    (call env).2.sends ≤ 1 ∧ ((call env).2.sends = 1 ↔ env.checkOk = true ∧ env.serOk = true) := by
  have h := call_spec env
  split at h <;> simp [h.1, *]

/-- the request is a POST carrying the serialised envelope, with Basic credentials exactly when configured -/
theorem c16_request_shape (env : Env) (h : (call env).2.sends = 1) :
    (call env).2.postBuilt = true ∧ (call env).2.bodySet = true ∧ ((call env).2.authSet = env.creds) := by
  have h' := call_spec env
  split at h' <;> simp_all

/-- a value is returned only for a completed exchange: a response whose status is not 4xx/5xx, whose body
    could be read and deserialises into the response envelope -/
theorem c16_value_only_for_success (env : Env) (h : (call env).1 = .value) :
    ∃ s, env.transport = .response s true ∧ ¬ (400 ≤ s ∧ s < 600) ∧ env.deOk = true ∧ env.checkOk = true ∧ env.serOk = true := by
  have h' := call_spec env
  split at h'
  · rw [h'.2.2.2.2] at h
    split at h
    · next s ht => exact ⟨s, ht, by split at h <;> simp_all⟩
    · cases h
  · simp [h] at h'

/-- every 4xx or 5xx status, every unreadable or unparsable body and every transport failure is an error -/
theorem c16_failures_are_errors (env : Env)
    (h : env.transport = .refused ∨ env.transport = .closed ∨ (∃ s b, env.transport = .response s b ∧ 400 ≤ s ∧ s < 600) ∨
         (∃ s, env.transport = .response s false) ∨ env.deOk = false) :
    (call env).1 ≠ .value := by
  intro hv
  obtain ⟨s, ht, hs, hd, _, _⟩ := c16_value_only_for_success env hv
  rcases h with h | h | ⟨s', b, h, h1, h2⟩ | ⟨s', h⟩ | h
  · simp [ht] at h
  · simp [ht] at h
  · rw [ht] at h; cases h; exact hs ⟨h1, h2⟩
  · rw [ht] at h; cases h
  · simp [hd] at h

/-- 2xx with a parsable envelope gives the value -/
theorem c16_success (cr : Bool) (s : Nat) (hs : 200 ≤ s ∧ s < 300) :
    (call ⟨true, true, cr, .response s true, true⟩).1 = .value := by
  have h := call_spec ⟨true, true, cr, .response s true, true⟩
  simp_all; omega

/-! non-vacuity: concrete exchanges -/
example : (call ⟨true, true, true, .response 200 true, true⟩).1 = .value := c16_success true 200 (by decide)
example : (call ⟨true, true, false, .response 500 true, true⟩).1 = .errHttp := by
  have := call_spec ⟨true, true, false, .response 500 true, true⟩; simp_all
example : (call ⟨true, true, false, .response 200 true, false⟩).1 = .errYaserde := by
  have := call_spec ⟨true, true, false, .response 200 true, false⟩; simp_all
example : (call ⟨false, true, false, .response 200 true, true⟩).1 = .errRestriction ∧
    (call ⟨false, true, false, .response 200 true, true⟩).2.sends = 0 := by
  have := call_spec ⟨false, true, false, .response 200 true, true⟩; simp_all

end ZeepVerif.Props.C16
