/-
C10 for every input (any trees, file table, import graph, fuel): the namespace bookkeeping of the document `read_xml` returns
is coherent (`Good`). Instance of `Lemmas/KeepsFile.readXml_rel`.
-/
import ZeepVerif.Lemmas.KeepsFile
import ZeepVerif.Lemmas.DocOps
import ZeepVerif.Props.C10
import ZeepVerif.Props.C11Demo

namespace ZeepVerif.Props.C10All
open ZeepVerif.Model ZeepVerif.Lemmas.KeepsFile ZeepVerif.Props.C10

/-- an abbreviation (XML prefix, Rust module) stands for one URI and a URI has one abbreviation (`NsInv`); every prefix binding and
    target namespace is in the namespace list; every component is filed under a target namespace (so it is emitted in that
    namespace's single module) -/
structure Good (d : Doc) : Prop where
  inj : NsInv d.namespaces
  lookup : ∀ kv ∈ d.lookup, kv.2 ∈ d.namespaces
  targets : ∀ t ∈ d.targetNamespaces, t ∈ d.namespaces
  current : ∀ c, d.current = some c → c ∈ d.targetNamespaces
  nodes : ∀ n ∈ d.nodes, ∀ c, n.inNs = some c → c ∈ d.targetNamespaces

/-- an implication, because `FileRel.refl` has to hold of every start document, coherent or not; that an imported document still has
    its importer's namespaces is what `good_extend` needs for the merge -/
def Rel (d0 d : Doc) : Prop := (Good d0 → Good d) ∧ ∀ x ∈ d0.namespaces, x ∈ d.namespaces

theorem Good.congr {d d' : Doc} (h : Good d) (h1 : d'.namespaces = d.namespaces) (h2 : d'.lookup = d.lookup)
    (h3 : d'.targetNamespaces = d.targetNamespaces) (h4 : d'.current = d.current) (h5 : d'.nodes = d.nodes) : Good d' :=
  ⟨h1 ▸ h.inj, h1 ▸ h2 ▸ h.lookup, h1 ▸ h3 ▸ h.targets, h3 ▸ h4 ▸ h.current, h3 ▸ h5 ▸ h.nodes⟩

theorem good_addRef (d : Doc) (a u : String) (h : Good d) : Good (d.addNamespaceReference a u) := by
  have hinj := c10_add_preserves d a u h.inj
  revert hinj
  refine d.addNamespaceReference_elim a u (fun _ _ => h) (fun ns hf _ hinj => ?_) (fun hf _ hinj => ?_)
  · exact ⟨hinj, List.forall_mem_append.mpr ⟨h.lookup, List.forall_mem_singleton.mpr (List.mem_of_find?_eq_some hf)⟩,
      h.targets, h.current, h.nodes⟩
  · exact ⟨hinj, List.forall_mem_append.mpr ⟨fun kv hkv => List.mem_append_left _ (h.lookup kv hkv),
        List.forall_mem_singleton.mpr (List.mem_append_right _ (List.mem_singleton.mpr rfl))⟩,
      fun t ht => List.mem_append_left _ (h.targets t ht), h.current, h.nodes⟩

theorem good_addDefault (d : Doc) (u : String) (h : Good d) : Good (d.addDefaultNamespace u) :=
  d.addDefaultNamespace_elim u (fun _ => h) fun _ => h.congr rfl rfl rfl rfl rfl

theorem good_switch (d : Doc) (ns : String) (h : Good d) : Good (d.switchToTargetNamespace ns) := by
  have hinj := c10_switch_preserves d ns h.inj
  revert hinj
  refine d.switchToTargetNamespace_elim ns (fun _ _ => h) (fun t _ _ hinj => ?_)
  exact ⟨hinj, fun kv hkv => List.mem_append_left _ (h.lookup kv hkv),
    fun x hx => (List.mem_append.mp hx).elim (fun hx => List.mem_append_left _ (h.targets x hx)) (List.mem_append_right _),
    fun c hc => Option.some.inj hc ▸ List.mem_append_right _ (List.mem_singleton.mpr rfl),
    fun n hn c hc => List.mem_append_left _ (h.nodes n hn c hc)⟩

theorem good_extend (d imp : Doc) (hd : Good d) (hi : Good imp) (hsub : ∀ x ∈ d.namespaces, x ∈ imp.namespaces) :
    Good (d.extend imp) := by
  refine ⟨c10_extend_preserves d imp hi.inj hsub, fun kv hkv => ?_, fun t ht => ?_, fun c hc => ?_, fun n hn c hc => ?_⟩
  · exact mem_extendNoDuplicates.mpr ((mem_extendLookup hkv).imp (hd.lookup kv) (hi.lookup kv))
  · exact mem_extendNoDuplicates.mpr ((mem_extendNoDuplicates.mp ht).imp (hd.targets t) (hi.targets t))
  · exact mem_extendNoDuplicates.mpr (Or.inl (hd.current c hc))
  · exact mem_extendNoDuplicates.mpr ((List.mem_append.mp hn).imp (hd.nodes n · c hc) (hi.nodes n · c hc))

theorem good_start (known : List Ns) (kn : List RNode) (h : NsInv known) : Good (startDoc known kn) :=
  ⟨h, by simp [startDoc], by simp [startDoc], by simp [startDoc], by simp [startDoc]⟩

theorem rel_fileRel : FileRel Rel where
  inv d0 := {
    addRef := fun d a u h => ⟨fun g => good_addRef d a u (h.1 g), fun x hx => (d.grows_addRef a u).namespaces.subset (h.2 x hx)⟩
    addDefault := fun d u h => ⟨fun g => good_addDefault d u (h.1 g), fun x hx => (d.grows_addDefault u).namespaces.subset (h.2 x hx)⟩
    switch := fun d ns h => ⟨fun g => good_switch d ns (h.1 g), fun x hx => (d.grows_switch ns).namespaces.subset (h.2 x hx)⟩
    push := fun d key h => ⟨fun g => (h.1 g).congr rfl rfl rfl rfl rfl, h.2⟩
    pop := fun d h => ⟨fun g => (h.1 g).congr rfl rfl rfl rfl rfl, h.2⟩ }
  refl _ _ := ⟨id, fun _ h => h⟩
  nodes d0 d n h hn _ := ⟨fun g =>
    have g := h.1 g
    ⟨g.inj, g.lookup, g.targets, g.current, fun m hm c hc =>
      (List.mem_append.mp hm).elim (g.nodes m · c hc) fun hm => g.current c (by rw [← hn, ← List.mem_singleton.mp hm]; exact hc)⟩, h.2⟩
  messages d0 d m h := ⟨fun g => (h.1 g).congr rfl rfl rfl rfl rfl, h.2⟩
  ports d0 d m h := ⟨fun g => (h.1 g).congr rfl rfl rfl rfl rfl, h.2⟩
  bindings d0 d m h := ⟨fun g => (h.1 g).congr rfl rfl rfl rfl rfl, h.2⟩
  services d0 d m h := ⟨fun g => (h.1 g).congr rfl rfl rfl rfl rfl, h.2⟩
  imported d0 d imp h hi := ⟨fun g =>
    have gd := h.1 g
    good_extend d imp gd (hi.1 (good_start _ _ gd.inj)) hi.2, fun x hx => (d.grows_extend imp).namespaces.subset (h.2 x hx)⟩

/-- C10: in particular two different URIs never share an abbreviation (prefix), and one URI never has two abbreviations or modules -/
theorem c10_all_inputs (files : List XFile) (start : String) (fuel : Nat) (d : Doc)
    (h : readXml files start fuel = .ok d) : Good d :=
  (readXml_rel rel_fileRel files start fuel d h).1 (good_start [] [] (by intro a ha; cases ha))

theorem c10_injective_all_inputs (files : List XFile) (start : String) (fuel : Nat) (d : Doc)
    (h : readXml files start fuel = .ok d) (a b : Ns) (ha : a ∈ d.namespaces) (hb : b ∈ d.namespaces) :
    (a.abbreviation = b.abbreviation → a.uri = b.uri) ∧ (a.uri = b.uri → a.abbreviation = b.abbreviation ∧ a.rustModName = b.rustModName) := by
  have := (c10_all_inputs files start fuel d h).inj a ha b hb
  exact ⟨fun e => by rw [this.1 e], fun e => by rw [this.2 e]; exact ⟨rfl, rfl⟩⟩

theorem c10_components_in_one_module (files : List XFile) (start : String) (fuel : Nat) (d : Doc)
    (h : readXml files start fuel = .ok d) (n : RNode) (hn : n ∈ d.nodes) (c : Ns) (hc : n.inNs = some c) :
    c ∈ d.targetNamespaces ∧ c ∈ d.namespaces := by
  have g := c10_all_inputs files start fuel d h
  exact ⟨g.nodes n hn c hc, g.targets c (g.nodes n hn c hc)⟩

/-! non-vacuity: the cyclic two-file set of `Props/C11Demo` is read into a document, which therefore is `Good` -/
example : ∃ d, readXml C11Read.demoCycle "a.xsd" = .ok d ∧ Good d := by
  obtain ⟨r, _, hd⟩ := C11Read.demoCycle_read
  exact ⟨r.1, hd, c10_all_inputs _ _ _ _ hd⟩

end ZeepVerif.Props.C10All
