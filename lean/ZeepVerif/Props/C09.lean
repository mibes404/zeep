/-
C09 — QName references resolve by namespace, independent of declaration order.
About the model's resolution machinery (doc.rs `namespace_lookup`, `find_node_by_xml_name`; field.rs `as_rust_type`).
-/
import ZeepVerif.Lemmas.SplitType
import ZeepVerif.Lemmas.DocOps

namespace ZeepVerif.Props.C09
open ZeepVerif.Model

/-- whatever the order in which components were read: a successful lookup among the read nodes gives
    a component with exactly the wanted local name, namespace and kind -/
theorem c09_lookup_sound (d : Doc) (n : String) (ns : Option Ns) (k : Kind) (r : RNode)
    (h : lookupRead d n ns k = some r) :
    r.rtype.xmlName = some n ∧ r.inNs = ns ∧ k.matchesType r.rtype = true :=
  (lookupRead_some h).2

/-- and it finds one whenever one has been read (own nodes or the importer's) -/
theorem c09_lookup_complete (d : Doc) (n : String) (ns : Option Ns) (k : Kind) (r : RNode)
    (hr : r ∈ d.nodes ++ d.knownNodes) (h1 : r.rtype.xmlName = some n) (h2 : r.inNs = ns)
    (h3 : k.matchesType r.rtype = true) : (lookupRead d n ns k).isSome = true := by
  unfold lookupRead
  rw [List.find?_isSome]
  exact ⟨r, hr, by simp [h1, h2, h3]⟩

/-- a type is never taken for an element nor an element for a type -/
theorem c09_kinds_apart (p : EProps) (c : CProps) (s : SProps) :
    Kind.type.matchesType (.element p) = false ∧ Kind.element.matchesType (.complex c) = false ∧
    Kind.element.matchesType (.simple s) = false := by
  simp [Kind.matchesType]

/-- a later xmlns declaration never changes what an already bound prefix (or the default namespace)
    means -/
theorem c09_add_keeps_bindings (d : Doc) (a u p : String) (n : Ns) (h : lookupNs d p = some n) :
    lookupNs (d.addNamespaceReference a u) p = some n :=
  lookupNs_mono (d.grows_addRef a u) h

/-- the first default-namespace declaration of a file stands; a later one changes nothing that resolved -/
theorem c09_default_keeps_bindings (d : Doc) (u p : String) (n : Ns) (h : lookupNs d p = some n) :
    lookupNs (d.addDefaultNamespace u) p = some n :=
  lookupNs_mono (d.grows_addDefault u) h

/-- an unprefixed reference is resolved through the empty prefix, i.e. it denotes the default namespace
    when one is bound and known — never a builtin of the same local name -/
theorem c09_unprefixed_is_default (d : Doc) (l : String) (n : Ns)
    (hp : lookupNs d "" = some n) (hcolon : ':' ∉ l.toList) :
    asRustType d l = .other (xmlNameToRustName l) (some n.rustModName) :=
  Lemmas.SplitType.asRustType_of_bound (Lemmas.SplitType.splitType_unprefixed l hcolon) hp

/-- merging an imported file never rebinds a prefix of the importer (both files may use `tns`), nor its
    default namespace -/
theorem c09_extend_keeps_bindings (me other : Doc) (p : String) (n : Ns) (h : lookupNs me p = some n) :
    lookupNs (me.extend other) p = some n :=
  lookupNs_mono (me.grows_extend other) h

/-- a prefix bound to one of the schema's namespaces denotes a user type of that namespace's module,
    even when the local name is the name of an XSD builtin -/
theorem c09_user_prefix_not_builtin (d : Doc) (pfx l : String) (n : Ns)
    (hp : lookupNs d pfx = some n) (hcolon : ':' ∉ pfx.toList) :
    asRustType d (pfx ++ ":" ++ l) = .other (xmlNameToRustName l) (some n.rustModName) :=
  Lemmas.SplitType.asRustType_of_bound (Lemmas.SplitType.splitType_prefixed pfx l hcolon) hp

/-! non-vacuity: two namespaces define `Item`; the lookup in the second namespace returns the second -/
example : lookupRead
    { nodes := [⟨.complex ⟨"Item", [], none, none⟩, some ⟨"urn:a", "a", "mod_a"⟩⟩,
                ⟨.complex ⟨"Item", [], none, none⟩, some ⟨"urn:b", "b", "mod_b"⟩⟩] }
    "Item" (some ⟨"urn:b", "b", "mod_b"⟩) .type
    = some ⟨.complex ⟨"Item", [], none, none⟩, some ⟨"urn:b", "b", "mod_b"⟩⟩ := by decide

end ZeepVerif.Props.C09
