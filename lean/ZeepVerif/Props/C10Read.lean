/-
C10 on the document `read_xml` returns for a start file that imports leaf files (`startFileB`; `Props/C10Graph` is the
statement for the import graphs the pure reader covers).
-/
import ZeepVerif.Props.C10All
import ZeepVerif.Lemmas.ReadDecideG

namespace ZeepVerif.Props.C10Read
open ZeepVerif.Model ZeepVerif.Props.C10
open ZeepVerif.Lemmas.ReadDecideG

/-- whenever the decidable hypothesis of `c11_file_set_read` holds of a file set, the reader returns a document whose
    namespace list satisfies `NsInv`: two entries with the same abbreviation (prefix, module) are the same namespace,
    and two entries with the same URI are the same entry — across the start file and every imported file, however
    many of them would abbreviate to the same three letters -/
theorem c10_document_injective (fs : List XFile) (start : String) (h : startFileB fs start = true) :
    ∃ doc, readXml fs start = .ok doc ∧ NsInv doc.namespaces := by
  obtain ⟨schema, tns, hread⟩ := readXml_of_startFileB fs start h
  exact ⟨_, hread, (C10All.c10_all_inputs fs start 10000 _ hread).inj⟩

end ZeepVerif.Props.C10Read
