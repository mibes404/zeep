/-
C05 on the wire, in the yaserde model: the element names and namespaces the envelope structs put on the wire. With
`C03Ya.c03_member_element_name` this is "the Body holds exactly the element referenced by the bound body part, under
its own element QName" for a `core` program that holds these structs; that hypothesis is not discharged here (`bound`
is, for the Body's member).
-/
import ZeepVerif.Ya.OfSoap
import ZeepVerif.Lemmas.YaOfDoc

namespace ZeepVerif.Props.C05Ya
open ZeepVerif.Model ZeepVerif.Ya ZeepVerif.Lemmas.YaWf ZeepVerif.Lemmas.YaOfDoc

/-- target namespaces with pairwise different abbreviations, none of them `soapenv` (C10's invariant) -/
def AbbrInjective (tns : List Ns) : Prop :=
  (∀ a ∈ tns, ∀ b ∈ tns, a.abbreviation = b.abbreviation → a.uri = b.uri) ∧ ∀ a ∈ tns, a.abbreviation ≠ "soapenv"

theorem lookup_tns (tns : List Ns) (ns : Ns) (hmem : ns ∈ tns) (hinj : AbbrInjective tns) :
    nsLookup (soapNss tns) ns.abbreviation = some ns.uri := by
  have hne : ("soapenv" == ns.abbreviation) = false := beq_false_of_ne fun e => hinj.2 ns hmem e.symm
  have h : (tns.find? (·.abbreviation == ns.abbreviation)).isSome := List.find?_isSome.mpr ⟨ns, hmem, beq_self_eq_true _⟩
  obtain ⟨t, ht⟩ := Option.isSome_iff_exists.mp h
  -- the first record with that abbreviation has the same URI
  have hu := hinj.1 t (List.mem_of_find?_eq_some ht) ns hmem (by simpa using List.find?_some ht)
  simp only [soapNss, nsLookup, List.find?_cons, hne]
  exact (nsLookup_map tns ns.abbreviation).trans (by rw [ht, Option.map_some, hu])

/-- the Body's member is the bound element, under its own QName: the single member of `XEnvelopeBody` is labelled with
    the XML name of the element the body part refers to, and its prefix denotes that element's namespace in the struct's
    `namespaces` — for an envelope whose body element lives in one of the document's target namespaces -/
theorem c05_body_member_qname (envelopeName : String) (env : Envelope) (tns : List Ns) (ns : Ns) (xmlName : String)
    (hns : env.body.inNs = some ns) (hx : env.body.rtype.xmlName = some xmlName) (hmem : ns ∈ tns)
    (hinj : AbbrInjective tns) :
    ∃ sd f, bodyStructOf envelopeName env tns = some sd ∧ sd.fields = [f] ∧ f.kind = .elem ∧ f.wrap = .one ∧
      f.rename = xmlName ∧ sd.fieldNs f = ns.uri ∧ bound sd.nss f.pfx = true := by
  simp only [bodyStructOf, hx, hns, Option.map_some]
  refine ⟨_, _, rfl, rfl, rfl, rfl, rfl, ?_, ?_⟩
  · simp [StructD.fieldNs, lookup_tns tns ns hmem hinj]
  · simp [bound, lookup_tns tns ns hmem hinj]

/-- the envelope itself: `Header` (exactly when header parts are bound) then `Body`, both in the SOAP 1.1 envelope
    namespace, under the root `soapenv:Envelope` -/
theorem c05_envelope_members (envelopeName : String) (env : Envelope) (tns : List Ns) :
    let sd := envelopeStructOf envelopeName env tns
    sd.rename = "Envelope" ∧ (sd.pfx.bind (nsLookup sd.nss)) = some soapenvUri ∧
    sd.fields.map (·.rename) = (if env.headers.isEmpty then [] else ["Header"]) ++ ["Body"] ∧
    ∀ f ∈ sd.fields, sd.fieldNs f = soapenvUri ∧ f.wrap = .one := by
  refine ⟨rfl, by simp [envelopeStructOf, soapNss, nsLookup], ?_, ?_⟩
  · cases h : env.headers.isEmpty <;> simp [envelopeStructOf, h]
  · intro f hf
    cases h : env.headers.isEmpty <;> simp [envelopeStructOf, h] at hf
    · rcases hf with rfl | rfl <;> simp [StructD.fieldNs, envelopeStructOf, soapNss, nsLookup]
    · subst hf; simp [StructD.fieldNs, envelopeStructOf, soapNss, nsLookup]

theorem mapM_eq_some {α β : Type} (g : α → Option β) : ∀ (l : List α) (fs : List β), l.mapM g = some fs →
    fs.length = l.length ∧ ∀ f ∈ fs, ∃ x ∈ l, g x = some f
  | [], _, h => by cases h; simp
  | x :: l, _, h => by
    simp only [List.mapM_cons, Option.bind_eq_bind, Option.bind_eq_some_iff, Option.pure_def, Option.some.injEq] at h
    obtain ⟨f, hf, fs, hfs, rfl⟩ := h
    obtain ⟨h1, h2⟩ := mapM_eq_some g l fs hfs
    exact ⟨by simp [h1], List.forall_mem_cons.mpr ⟨⟨x, List.mem_cons_self, hf⟩, fun f' hf' =>
      let ⟨y, hy, e⟩ := h2 f' hf'
      ⟨y, List.mem_cons_of_mem _ hy, e⟩⟩⟩

/-- one member per bound header part, each an optional element (the label is in `headerStructOf`, not in the statement) -/
theorem c05_header_members (envelopeName : String) (env : Envelope) (tns : List Ns) (sd : StructD)
    (h : headerStructOf envelopeName env tns = some sd) :
    sd.fields.length = env.headers.length ∧ ∀ f ∈ sd.fields, f.wrap = .opt ∧ f.kind = .elem := by
  simp only [headerStructOf, Option.map_eq_some_iff] at h
  obtain ⟨fs, hfs, rfl⟩ := h
  obtain ⟨h1, h2⟩ := mapM_eq_some _ _ _ hfs
  refine ⟨h1, fun f hf => ?_⟩
  obtain ⟨ph, -, hph⟩ := h2 f hf
  obtain ⟨xn, -, rfl⟩ := Option.map_eq_some_iff.mp hph
  exact ⟨rfl, rfl⟩

/-- the writer emits the spelling of that member (shown for a direction without header parts; with header parts the
    same lines follow the header struct — covered by the byte-exact correspondence) -/
theorem c05_body_member_spelled_partial (envelopeName : String) (body : RNode) (tns : List Ns) (ns : Ns) (xmlName : String)
    (hns : body.inNs = some ns) (hx : body.rtype.xmlName = some xmlName) (chunks : List String)
    (h : writeSoapOperation envelopeName ⟨[], body⟩ tns = .ok chunks) :
    spellField ⟨.elem, some ns.abbreviation, xmlName, .one, partLeaf body xmlName⟩ ∈ chunks := by
  simp only [writeSoapOperation, hns, hx] at h
  simp [pure, Except.pure] at h
  subst h
  simp [spellField]

/-! non-vacuity -/
example : AbbrInjective [⟨"urn:a", "a", "mod_a"⟩, ⟨"urn:b", "b", "mod_b"⟩] := by
  unfold AbbrInjective
  decide

end ZeepVerif.Props.C05Ya
