/-
C08 — a derived type carries its base type's members first, then its own.
The reader's flattening of a type's content (`import_sequence_node_fields`, model `memberSites`) keeps declaration
order at every depth; the reference elaboration orders members base-first.
-/
import ZeepVerif.Model.Reader
import ZeepVerif.Spec.Grammar

namespace ZeepVerif.Props.C08
open ZeepVerif.Model ZeepVerif.Spec

/-- flattening is a homomorphism on child lists: declaration order is preserved, whatever is nested inside -/
theorem c08_flatten_append (a b : List XNode) (anc : List XNode) :
    memberSitesList (a ++ b) anc = memberSitesList a anc ++ memberSitesList b anc := by
  induction a with
  | nil => simp [memberSitesList]
  | cons k ks ih => simp [memberSitesList, ih, List.append_assoc]

/-- a nested sequence or choice contributes its own members in place (inlined, in order) -/
theorem c08_nested_inline (t : String) (attrs nss tx) (kids rest : List XNode) (anc : List XNode)
    (ht : t = "sequence" ∨ t = "choice") :
    memberSitesList (XNode.elem t attrs nss tx kids :: rest) anc =
      memberSitesList kids (XNode.elem t attrs nss tx kids :: anc) ++ memberSitesList rest anc := by
  rcases ht with rfl | rfl <;> simp [memberSitesList, memberSites, XNode.isElem, XNode.tag]

/-- an attribute declaration is never an element member of a particle (the callers read attributes,
    after the elements) and non-element nodes (white space, comments) contribute nothing -/
theorem c08_attributes_skipped (attrs nss tx kids) (rest : List XNode) (anc : List XNode) :
    memberSitesList (XNode.elem "attribute" attrs nss tx kids :: rest) anc = memberSitesList rest anc ∧
    memberSitesList (XNode.other :: rest) anc = memberSitesList rest anc := by
  simp [memberSitesList, XNode.isElem, XNode.tag]

/-- a plain element declaration is exactly one member, in place, with the enclosing particles as its ancestors -/
theorem c08_element_member (attrs nss tx kids) (rest : List XNode) (anc : List XNode) :
    memberSitesList (XNode.elem "element" attrs nss tx kids :: rest) anc =
      (XNode.elem "element" attrs nss tx kids, anc) :: memberSitesList rest anc := by
  simp [memberSitesList, XNode.isElem, XNode.tag]

/-- reference order: the members of a type derived from `(ns, b)` are the members of that base (in the
    base's order, elaborated in the base's own file, so with the namespaces of the schemas that declared
    them), then its own elements, then its own attributes — at every derivation depth -/
theorem c08_ref_order (s : SchemaSet) (f bf : SchemaFile) (d bd : ComplexDef) (ns : Nat) (b : String) (fuel : Nat)
    (hb : d.base = some (ns, b)) (hf : Ref.findComplex s ns b = some (bf, bd)) :
    Ref.members s f d (fuel + 1) =
      Ref.members s bf bd fuel ++ Ref.ownElements s f d ++ d.attrs.map (Ref.attrField s) := by
  simp [Ref.members, hb, hf]

theorem c08_ref_no_base (s : SchemaSet) (f : SchemaFile) (d : ComplexDef) (fuel : Nat) (hb : d.base = none) :
    Ref.members s f d (fuel + 1) = Ref.ownElements s f d ++ d.attrs.map (Ref.attrField s) := by
  simp [Ref.members, hb]

/-! non-vacuity -/
example : (memberSitesList
    [XNode.elem "element" [⟨"name", none, "a"⟩] [] none [], XNode.other,
     XNode.elem "sequence" [] [] none [XNode.elem "element" [⟨"name", none, "b"⟩] [] none []],
     XNode.elem "attribute" [⟨"name", none, "c"⟩] [] none [],
     XNode.elem "element" [⟨"name", none, "d"⟩] [] none []] []).map (fun s => s.1.attr? "name") =
    [some "a", some "b", some "d"] := by decide

end ZeepVerif.Props.C08
