/-
C13 — the library never panics, overflows or hangs, whatever the input.
-/
import ZeepVerif.Model.Emit
import ZeepVerif.Generated.Sites

namespace ZeepVerif.Props.C13
open ZeepVerif.Model ZeepVerif.Generated

/-- the binary reports its failures by `expect` (exit status 101): these five sites are the subject of C17, not of C13 -/
def accounted : List (String × String × String × String) := [
  ("zeep/src/main.rs", "main", "expect", "read_input_file_and_xsd_files_at_path (from_file_path)"),
  ("zeep/src/main.rs", "main", "expect", "XmlReader :: read_xml (& files)"),
  ("zeep/src/main.rs", "main", "expect", "document . write_xml (& mut generated)"),
  ("zeep/src/main.rs", "main", "expect", "File :: create (output_file)"),
  ("zeep/src/main.rs", "main", "expect", "file . write_all (& generated)")]

/-- `Sites.panicSites`, the regenerated inventory of `unwrap`/`expect`/`panic!`/`assert!`/`unreachable!`/indexing sites
    in the non-test generator code, holds nothing but those five -/
theorem c13_panic_sites_accounted : Sites.panicSites.all (fun s => accounted.contains s) = true := by decide +kernel

theorem c13_library_has_no_panic_site :
    Sites.panicSites.all (fun s => s.1 == "zeep/src/main.rs") = true := by decide +kernel

/-- the model's outcome space has no "panic": reading yields a document or one of the `WriterError`s (or runs out of
    the fuel that stands for stack and time); the content is `readXml`'s type -/
theorem c13_outcomes (files : List XFile) (start : String) (fuel : Nat) :
    (∃ d, readXml files start fuel = .ok d) ∨ (∃ e, readXml files start fuel = .error e) := by
  cases h : readXml files start fuel with
  | ok d => exact Or.inl ⟨d, rfl⟩
  | error e => exact Or.inr ⟨e, rfl⟩

/- the flattening of a type's content is structurally recursive on the XML tree: it terminates on every
   tree, and the number of member sites is bounded by the size of the tree -/
mutual
theorem c13_sites_bounded (n : XNode) (anc : List XNode) : (memberSites n anc).length ≤ sizeOf n := by
  match n with
  | .elem t a nss tx kids =>
    have := c13_sitesList_bounded kids (XNode.elem t a nss tx kids :: anc)
    simp only [memberSites, XNode.elem.sizeOf_spec]
    omega
  | .other => simp [memberSites]
theorem c13_sitesList_bounded (ks : List XNode) (anc : List XNode) : (memberSitesList ks anc).length ≤ sizeOf ks := by
  match ks with
  | [] => simp [memberSitesList]
  | k :: ks =>
    have h1 := c13_sites_bounded k anc
    have h2 := c13_sitesList_bounded ks anc
    simp only [memberSitesList, List.length_append, List.cons.sizeOf_spec]
    split
    · simp; omega
    · split
      · omega
      · split <;> simp <;> omega
end

end ZeepVerif.Props.C13
