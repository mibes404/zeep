/-
C02, nothing invented, for every input: every component of every document the reader returns is the reading of a schema
element. Result specifications of `elementFromNode`, `simpleFromNode`, `tryFromNode`, lifted to `read_xml` by `readXml_rel`
(what is pushed was returned by `try_from_node`).
-/
import ZeepVerif.Props.CpxAll
import ZeepVerif.Lemmas.KeepsFile

namespace ZeepVerif.Props.DocAll
open ZeepVerif.Model ZeepVerif.Lemmas.Keeps ZeepVerif.Lemmas.KeepsFile Std.Do
  ZeepVerif.Props.CpxAll

set_option mvcgen.warning false

/-- `p` is the reading of the complex type definition `node` (ancestors `anc`) -/
def ReadsAs (node : XNode) (anc : List XNode) (p : CProps) : Prop :=
  nameOf node anc = some p.xmlName ∧ FoldFrom (node :: anc) node.elemKids [] p.fields

theorem element_spec (node : XNode) (ctx : Ctx) (fuel : Nat) :
    ⦃fun _ => ⌜True⌝⦄ elementFromNode node ctx fuel
    ⦃post⟨fun r _ => ⌜node.attr? "name" = some r.xmlName ∧
        ∀ cp, r.etype = .complex cp → ∃ ct ∈ node.elemKids, ct.tag = "complexType" ∧ ReadsAs ct (node :: ctx.ancestors) cp⌝,
      fun _ _ => ⌜True⌝⟩⦄ := by
  cases fuel with
  | zero => exact Returns.throw _
  | succ fuel =>
    have hcpx := fun n c => complex_spec n c fuel
    mvcgen -trivial [elementFromNode, collectNamespacesOnNode, modifyDoc, getDoc, liftOpt, hcpx]
    case vc1.succ.h_1.h_1 => rename_i hx _ _; exact ⟨hx, fun cp h => by cases h⟩
    case vc2.succ.h_1.h_2.h_1.success =>
      rename_i hx _ ct hfind r _ hr
      refine ⟨hx, fun cp h => ?_⟩
      cases h
      have := List.find?_some hfind
      exact ⟨ct, List.mem_of_find?_eq_some hfind, by simpa using this, hr.1, foldFrom_of_foldOK hr.2⟩
    case vc3.succ.h_1.h_2.h_2 => rename_i hx _ _; exact ⟨hx, fun cp h => by cases h⟩

/-- what a component description must look like, given the element it was read from -/
def NodeOf (node : XNode) (anc : List XNode) (rt : RType) : Prop :=
  match rt with
  | .complex p => (node.tag = "complexType" ∨ node.tag = "group") ∧ ReadsAs node anc p
  | .simple p => node.tag = "simpleType" ∧ node.attr? "name" = some p.xmlName
  | .element p => node.tag = "element" ∧ node.attr? "name" = some p.xmlName ∧
      ∀ cp, p.etype = .complex cp → ∃ ct ∈ node.elemKids, ct.tag = "complexType" ∧ ReadsAs ct (node :: anc) cp
  | .ignore => node.tag ≠ "complexType" ∧ node.tag ≠ "group" ∧ node.tag ≠ "simpleType" ∧ node.tag ≠ "element"

theorem simple_name (node : XNode) :
    ⦃fun _ => ⌜True⌝⦄ simpleFromNode node ⦃post⟨fun r _ => ⌜node.attr? "name" = some r.xmlName⌝, fun _ _ => ⌜True⌝⟩⦄ := by
  mvcgen -trivial [simpleFromNode, collectNamespacesOnNode, modifyDoc, getDoc, liftOpt]
  case inv1 => exact post⟨fun _ _ => ⌜True⌝, fun _ _ => ⌜True⌝⟩
  all_goals first | assumption | trivial

theorem nodeOf_iff {node : XNode} {anc : List XNode} {rt : RType} : NodeOf node anc rt ↔
    C09All.NodeOfP (ReadsAs node anc) (fun p => node.attr? "name" = some p.xmlName ∧
        ∀ cp, p.etype = .complex cp → ∃ ct ∈ node.elemKids, ct.tag = "complexType" ∧ ReadsAs ct (node :: anc) cp)
      (fun p => node.attr? "name" = some p.xmlName) node.tag rt := by
  cases rt <;> exact Iff.rfl

theorem tfn_spec (node : XNode) (ctx : Ctx) (fuel : Nat) :
    ⦃fun _ => ⌜True⌝⦄ tryFromNode node ctx fuel ⦃post⟨fun r _ => ⌜NodeOf node ctx.ancestors r.rtype⌝, fun _ _ => ⌜True⌝⟩⦄ :=
  (C09All.tfn_full (fun fuel => Returns.mono (complex_spec node ctx fuel) fun _ h => ⟨h.1, foldFrom_of_foldOK h.2⟩)
    (element_spec node ctx) (simple_name node) fuel).mono fun _ => nodeOf_iff.mpr

def AllRead (d : Doc) : Prop := ∀ n ∈ d.knownNodes ++ d.nodes, TfnResult n

/-- an implication, because `FileRel.refl` has to hold of every `startDoc known kn`, whatever nodes `kn` holds -/
def Rel (d0 d : Doc) : Prop := AllRead d0 → AllRead d

theorem rel_fileRel : FileRel Rel where
  inv d0 := {
    addRef := fun d a u h g => d.addNamespaceReference_elim a u (fun _ => h g) (fun _ _ _ => h g) (fun _ _ => h g)
    addDefault := fun d u h g => d.addDefaultNamespace_elim u (fun _ => h g) (fun _ => h g)
    switch := fun d ns h g => d.switchToTargetNamespace_elim ns (fun _ => h g) (fun _ _ _ => h g)
    push := fun d key h g => h g
    pop := fun d h g => h g }
  refl _ _ := id
  nodes d0 d n h _ hn := fun g =>
    have ⟨h1, h2⟩ := List.forall_mem_append.mp (h g)
    List.forall_mem_append.mpr ⟨h1, List.forall_mem_append.mpr ⟨h2, List.forall_mem_singleton.mpr hn⟩⟩
  messages d0 d m h := h
  ports d0 d m h := h
  bindings d0 d m h := h
  services d0 d m h := h
  imported d0 d imp h himp := fun g m hm => by
    have hd := h g
    rcases List.mem_append.mp hm with hm | hm
    · exact hd m (List.mem_append_left _ hm)
    · rcases List.mem_append.mp hm with hm | hm
      · exact hd m (List.mem_append_right _ hm)
      · exact himp (fun x hx => hd x (by simpa [startDoc] using hx)) m (List.mem_append_right _ hm)

theorem tfnResult_nodeOf (n : RNode) (h : TfnResult n) : ∃ node anc, NodeOf node anc n.rtype := by
  obtain ⟨node, ctx, fuel, d, hr⟩ := h
  exact ⟨node, ctx.ancestors, Returns.run (tfn_spec node ctx fuel) hr⟩

/-- Nothing is invented: every component of the document `read_xml` returns, from the start file or from any file reached through
    imports, is the reading of some schema element (`NodeOf`): a struct description that of a `complexType`/`group` element
    (`ReadsAs`), a simple type that of a `simpleType` element with that name, a global element that of an `element` with that name,
    its anonymous type the reading of one of its `complexType` children. -/
theorem c02_every_component_is_a_reading (files : List XFile) (start : String) (fuel : Nat) (d : Doc)
    (h : readXml files start fuel = .ok d) : ∀ n ∈ d.nodes, ∃ node anc, NodeOf node anc n.rtype := by
  have hr := readXml_rel rel_fileRel files start fuel d h
  have : AllRead d := hr (by intro n hn; simp [startDoc] at hn)
  intro n hn
  exact tfnResult_nodeOf n (this n (by simp [hn]))

/-- the same for the structs alone -/
theorem c02_every_struct_is_a_complex_type (files : List XFile) (start : String) (fuel : Nat) (d : Doc)
    (h : readXml files start fuel = .ok d) (n : RNode) (hn : n ∈ d.nodes) (p : CProps) (hp : n.rtype = .complex p) :
    ∃ node anc, (node.tag = "complexType" ∨ node.tag = "group") ∧ nameOf node anc = some p.xmlName ∧
      FoldFrom (node :: anc) node.elemKids [] p.fields := by
  obtain ⟨node, anc, hno⟩ := c02_every_component_is_a_reading files start fuel d h n hn
  rw [hp] at hno
  exact ⟨node, anc, hno.1, hno.2.1, hno.2.2⟩

/-! non-vacuity: the demonstration file of `C08Read` is read to a document with two structs -/
def demoCount : Option Nat :=
  match readXml [C08Read.demoFile] "demo.xsd" with
  | .ok d => some (d.nodes.filter (fun n => match n.rtype with | .complex _ => true | _ => false)).length
  | .error _ => none

example : demoCount = some 2 := by decide +kernel

end ZeepVerif.Props.DocAll
