/-
C10 on the document `read_xml` returns, for every import graph the pure reader covers.
-/
import ZeepVerif.Props.C10All

namespace ZeepVerif.Props.C10Graph
open ZeepVerif.Model ZeepVerif.Props.C10 ZeepVerif.Lemmas.ReadGraph

/-- nesting to the depth the default fuel allows, diamonds, self imports, cycles: each imported file starts from its
    importer's namespace list, so an abbreviation handed out anywhere is never handed out again for another URI, and a
    URI met again gets the abbreviation it has -/
theorem c10_graph_injective (fs : List XFile) (start : String) (depth : Nat) (hd : 3 * depth ≤ 10000) (r : Doc × RS)
    (h : readFileG (fileTable fs) depth start [] [] { processed := [] } = some r) :
    readXml fs start = .ok r.1 ∧ NsInv r.1.namespaces :=
  have hread := readXml_graph fs start depth hd r h
  ⟨hread, (C10All.c10_all_inputs fs start 10000 r.1 hread).inj⟩

end ZeepVerif.Props.C10Graph
