/-
C02 — generated structs mirror the schema: members, occurrence, types, names.
Over the model of the generator and the tables the translator regenerates from field.rs, against the reference
mapping `Spec.Ref`.
-/
import ZeepVerif.Model.Emit
import ZeepVerif.Spec.Grammar
import ZeepVerif.Lemmas.Flatten

namespace ZeepVerif.Props.C02
open ZeepVerif.Model ZeepVerif.Spec ZeepVerif.Generated

/-- the `RustFieldType` variant the documented Rust type is rendered from -/
def variantOf : String → String
  | "String" => "string"
  | t => t

/-- all 27 mapped builtins: the table extracted from `as_rust_type` gives each the documented type -/
theorem c02_builtin_table :
    Ref.builtinMap.all (fun kv =>
      ((Tables.builtinTable.find? (fun r => r.1 == kv.1)).map (·.2)) == some (variantOf kv.2)) = true := by
  decide +kernel

/-- nothing else is treated as a builtin: the table has exactly the documented 27 names, and the
    catch-all arm makes a named type -/
theorem c02_builtin_exact :
    (Tables.builtinTable.map (·.1)).all (fun n => (Ref.builtinMap.map (·.1)).contains n) = true ∧
    Tables.builtinTable.length = 27 ∧ Tables.builtinDefault = "other" := by
  decide +kernel

/-- every variant name in the table is one the model (and `impl Display for RustFieldType`) knows, and it
    renders to the documented Rust type -/
theorem c02_builtin_render :
    Ref.builtinMap.all (fun kv =>
      match (Tables.builtinTable.find? (fun r => r.1 == kv.1)).bind (fun r => ftypeOfName r.2) with
      | some t => t.render == kv.2
      | none => false) = true := by
  decide +kernel

/-- the wrapper the writer puts around a member type is exactly the reference one:
    `Vec<T>` when it may repeat, else `Option<T>` when optional or a choice branch, else `T` -/
theorem c02_wrapper (f : Field) :
    (writeField f).getLast? = some ("    pub " ++ f.rustName ++ ": " ++
      (match Ref.wrapperOf f.isOptional f.isVec f.isChoice with
       | "Vec" => "Vec<" ++ f.rustType.render ++ ">"
       | "Option" => "Option<" ++ f.rustType.render ++ ">"
       | _ => f.rustType.render) ++ ",\n") := by
  cases hv : f.isVec
  · cases ho : (f.isOptional || f.isChoice) <;> simp [writeField, Ref.wrapperOf, hv, ho]
  · simp [writeField, Ref.wrapperOf, hv]

/-- one attribute line and one public field line per member: nothing else is written for it -/
theorem c02_one_field_per_member (f : Field) : (writeField f).length = 2 := by
  simp [writeField]

/-- attribute members: optional unless `use="required"`, whatever the enclosing particles say -/
theorem c02_attribute_use (attrs : List XAttr) (nss) (tx) (kids) (anc : List XNode) :
    (occurrence (.elem "attribute" attrs nss tx kids) anc).isAttribute = true ∧
    (occurrence (.elem "attribute" attrs nss tx kids) anc).isOptional =
      ((XNode.elem "attribute" attrs nss tx kids).attr? "use" != some "required") := by
  simp [occurrence, XNode.tag]

/-! non-vacuity: the documented table is the one extracted; a field with all flags set is a `Vec` -/
example : (Tables.builtinTable.find? (fun r => r.1 == "long")).map (·.2) = some "i64" := by decide
example : (writeField ⟨"a", "a", .i32, true, true, none, false, true, false⟩).getLast? = some "    pub a: Vec<i32>,\n" := by
  decide

open ZeepVerif.Lemmas.Flatten in
/-- members and occurrence, for every content model: take any particle tree (elements, element references, nested
    sequences and choices to any depth, every `minOccurs`/`maxOccurs` up to 2^64-1), render it as the XML the generator
    reads, let the model traverse it (`memberSites`, the flattening of `import_sequence_node_fields`) and compute each
    member's flags (`occurrence`, as `Field::try_from_node` does). The wrappers are, member by member and in order,
    those of the reference flattening `Spec.Ref.flattenParticles`. -/
theorem c02_members_occurrence (s : SchemaSet) (f : SchemaFile) (uri : String) (ps : List Particle) (hp : PartsOk ps)
    (anc : List XNode) :
    (memberSitesList (particlesToX f ps) anc).map W =
      (Ref.flattenParticles s uri (ancOpt anc) (ancRep anc) (ancCh anc) ps).map (·.wrapper) :=
  flatten_particles s f uri ps hp anc

open ZeepVerif.Lemmas.Flatten in
/-- the content of a complex type: its top sequence, directly under the `complexType`/`extension` element
    (which is not a particle, so nothing above it influences occurrence) -/
theorem c02_type_content (s : SchemaSet) (f : SchemaFile) (d : ComplexDef) (o : Occurs) (ps : List Particle)
    (hc : d.content = some (o, ps)) (ho : OccOk o) (hp : PartsOk ps) (owner : XNode) (above : List XNode)
    (hown : isParticleTag owner.tag = false) :
    (memberSites (XNode.elem "sequence" (occAttrs o) [] none (particlesToX f ps)) (owner :: above)).map W =
      (Ref.ownElements s f d).map (·.wrapper) := by
  obtain ⟨e1, e2, e3⟩ := anc_stop owner above hown
  have := flatten_particle s f (uriOf s f.tns) (.seq o ps) ⟨ho, hp⟩ [] (owner :: above)
  rw [e1, e2, e3, Particle.toX, Props.C08.c08_nested_inline _ _ _ _ _ _ _ (.inl rfl), memberSitesList, List.map_nil,
    List.append_nil, List.append_nil] at this
  rw [Ref.ownElements, hc]
  exact this

end ZeepVerif.Props.C02
