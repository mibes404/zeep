/-
C03, end to end on the covered fragment: from the tree the real parser produced for a schema file, through the
reader model (refinement theorems), to the derive input of the emitted structs (`Ya.progOf`), to the wire: every
value of every generated struct serialises to namespace-well-formed XML.
-/
import ZeepVerif.Lemmas.ReadDecideX
import ZeepVerif.Lemmas.YaOfDoc
import ZeepVerif.Props.C03Ya

namespace ZeepVerif.Props.C03End
open ZeepVerif.Model ZeepVerif.Ya ZeepVerif.Lemmas.ReadField ZeepVerif.Lemmas.ReadFile
open ZeepVerif.Lemmas.ReadExt ZeepVerif.Lemmas.ReadDecideX ZeepVerif.Lemmas.YaOfDoc

theorem complexStepX_tns (d : Doc) (name : String) (anc : List XNode) (r : CProps) (n : XNode) (h : r.tns = d.current) :
    (complexStepX d name anc r n).tns = d.current := by
  unfold complexStepX
  split
  · split
    · rfl
    · exact h
  · unfold complexStep
    split
    · rfl
    · split
      · exact h
      · exact h

theorem complexOfX_tns (d : Doc) (node : XNode) (anc : List XNode) (name : String) :
    (complexOfX d node anc name).tns = d.current :=
  List.foldlRecOn (motive := (·.tns = d.current)) node.elemKids _ rfl fun r h k _ => complexStepX_tns d name (node :: anc) r k h

theorem nodeOfX_ok (d : Doc) (anc : List XNode) (k : XNode) (n : RNode) (hcur : d.current.isSome = true)
    (h : nodeOfX d anc k = some n) : NodeOK n := by
  unfold nodeOfX at h
  split at h
  · unfold compOfX at h
    split at h
    · simp only [Option.map_eq_some_iff] at h
      obtain ⟨name, _, rfl⟩ := h
      simp only [NodeOK, NoneOK]
      intro hn
      rw [complexOfX_tns] at hn
      simp [hn] at hcur
    · split at h
      · split at h
        · simp only [Option.map_eq_some_iff] at h
          obtain ⟨b, _, rfl⟩ := h
          simp [NodeOK]
        · cases h
      · split at h
        · split at h
          · cases h
          · split at h
            · simp only [Option.some.injEq] at h; subst h; simp [NodeOK]
            · split at h
              · simp only [Option.some.injEq] at h
                subst h
                simp only [NodeOK, NoneOK]
                intro hn
                rw [complexOfX_tns] at hn
                simp [hn] at hcur
              · simp only [Option.some.injEq] at h; subst h; simp [NodeOK]
        · cases h
  · cases h

theorem nodesFrom_ok (d : Doc) (anc : List XNode) (hcur : d.current.isSome = true) : (kids : List XNode) → (acc : List RNode) →
    (∀ n ∈ acc, NodeOK n) → ∀ n ∈ nodesFrom d anc kids acc, NodeOK n
  | [], acc, h => h
  | k :: rest, acc, h => by
    apply nodesFrom_ok d anc hcur rest
    intro n hn
    rcases List.mem_append.mp hn with hn | hn
    · exact h n hn
    · cases hq : nodeOfX { d with nodes := acc } anc k with
      | none => simp [hq] at hn
      | some m =>
        simp only [hq, Option.toList_some, List.mem_singleton] at hn
        subst hn
        exact nodeOfX_ok { d with nodes := acc } anc k _ hcur hq

/-- whenever the decidable hypothesis holds of the parsed schema file, the reader returns a document, and every value
    of every struct emitted for that document serialises to XML in which every prefix used is declared. Single files
    only. -/
theorem c03_end_to_end (xf : XFile) (h : coveredFileXB xf = true) :
    ∃ doc, readXml [xf] xf.name = .ok doc ∧
      ∀ (n : String) (v : Val) (px : PX), serRoot (progOf doc) n v = some px → (resolve [] px).isSome := by
  obtain ⟨schema, tns, _, hread⟩ := readXml_of_coveredFileXB xf h
  refine ⟨_, hread, ?_⟩
  intro n v px hs
  apply C03Ya.c03_every_prefix_declared _ _ n v px hs
  apply C03Ya.c03_document_program_declared
  intro m hm
  obtain ⟨_, _, _, _, hfd⟩ := fileDoc_eq schema tns
  have hcur : (fileDoc schema tns).current.isSome = true := by rw [hfd]; rfl
  have hnil : (fileDoc schema tns).nodes = [] := by rw [hfd]
  exact nodesFrom_ok (fileDoc schema tns) [schema] hcur schema.kids _ (by intro x hx; rw [hnil] at hx; cases hx) m hm

end ZeepVerif.Props.C03End
