/-
C09 at the level of the reader refinement: which component an `extension base=` denotes in the closed form of
`Props/C08Read`.
-/
import ZeepVerif.Lemmas.ReadExt

namespace ZeepVerif.Props.C09Read
open ZeepVerif.Model ZeepVerif.Lemmas.ReadExt

/-- the base whose fields a derived type starts with is a node read before that carries the local name of the
    QName, sits in the namespace the QName's prefix is bound to (the default namespace for an unprefixed name), and
    is a type — never a component of another namespace, never an element or attribute of that name -/
theorem c09_base_denotes (d : Doc) (anc : List XNode) (cc ext : XNode) (bn : RNode) (h : PlainExt d anc cc ext bn) :
    ∃ baseName, ext.attr? "base" = some baseName ∧ bn ∈ d.nodes ++ d.knownNodes ∧
      bn.rtype.xmlName = some (resolveType d baseName).1 ∧ bn.inNs = (resolveType d baseName).2 ∧
      Kind.type.matchesType bn.rtype = true :=
  let ⟨_, ⟨baseName, hb, hl⟩, _, _⟩ := h
  ⟨baseName, hb, lookupRead_some hl⟩

/-- and it is the *first* such node in reading order: no earlier node with that name, namespace and kind exists -/
theorem c09_base_first (d : Doc) (xn : String) (ns : Option Ns) (bn : RNode) (h : lookupRead d xn ns .type = some bn) :
    ∃ pre post, d.nodes ++ d.knownNodes = pre ++ bn :: post ∧
      ∀ m ∈ pre, ¬ (m.rtype.xmlName = some xn ∧ m.inNs = ns ∧ Kind.type.matchesType m.rtype = true) := by
  unfold lookupRead at h
  obtain ⟨pre, post, heq, hpre⟩ := List.find?_eq_some_iff_append.mp h |>.2
  refine ⟨pre, post, heq, ?_⟩
  intro m hm hc
  have := hpre m hm
  simp [hc.1, hc.2.1, hc.2.2] at this

end ZeepVerif.Props.C09Read
