/-
C11 (and the file-crossing half of C08/C09) as refinement statements about the monadic reader model: `read_xml` on a
set of files in which the start file imports leaf files (over `ReadImport.stepG`), then on any import graph (over
`ReadGraph.readFileG`).
-/
import ZeepVerif.Lemmas.ReadDecideG
import ZeepVerif.Lemmas.ReadGraph
import ZeepVerif.Props.C11All

namespace ZeepVerif.Props.C11Read
open ZeepVerif.Model ZeepVerif.Lemmas.ReadFile
open ZeepVerif.Lemmas.ReadImport ZeepVerif.Lemmas.ReadDecideG ZeepVerif.Lemmas.ReadGraph

/-- one level of imports: the reader's result is the fold of `stepG` over the children of the start file's `schema`.
    An import of a leaf file that has not been read merges that file's document and marks it; an import of a file
    that has been read is skipped; a derived type finds its base among the nodes read so far, whether they come from
    this file or from an imported one. The hypothesis is a Boolean the driver evaluates on the real parse. -/
theorem c11_file_set_read (fs : List XFile) (start : String) (h : startFileB fs start = true) :
    ∃ (schema : XNode) (tns : String), readXml fs start =
      .ok (schema.kids.foldl (stepG (fileTable fs) [schema]) (fileDoc schema tns, { processed := [start] })).1 :=
  readXml_of_startFileB fs start h

/-- each file is read at most once: the list of processed files never holds a name twice (one level) -/
theorem c11_read_once (files : String → Option XFile) (anc : List XNode) :
    (kids : List XNode) → (p : Doc × RS) → p.2.processed.Nodup → (kids.foldl (stepG files anc) p).2.processed.Nodup :=
  fun kids p h => List.foldlRecOn (motive := fun p : Doc × RS => p.2.processed.Nodup) kids _ h fun p h k _ => by
    rcases stepG_cases files anc p k with e | ⟨loc, _, hnp, e⟩ | e <;> rw [e]
    · exact h
    · exact List.nodup_cons.mpr ⟨by simpa using hnp, h⟩
    · exact h

def importLocs (kids : List XNode) : List String :=
  kids.filterMap fun k => if k.tag == "import" then k.attr? "schemaLocation" else none

theorem stepG_congr (files files' : String → Option XFile) (anc : List XNode) (p : Doc × RS) (k : XNode)
    (h : ∀ loc, k.tag = "import" → k.attr? "schemaLocation" = some loc → files loc = files' loc) :
    stepG files anc p k = stepG files' anc p k := by
  unfold stepG
  by_cases ht : (k.tag == "import") = true
  · simp only [ht, if_true]
    cases hl : k.attr? "schemaLocation" with
    | none => rfl
    | some loc => simp only [h loc (by simpa using ht) hl]
  · simp only [ht, Bool.false_eq_true, if_false]

/-- files that are not imported never matter (one level): two file tables that agree on every location the start
    schema imports give the same document, whatever else they contain -/
theorem c11_unreachable_irrelevant (files files' : String → Option XFile) (anc : List XNode) :
    (kids : List XNode) → (p : Doc × RS) → (∀ loc ∈ importLocs kids, files loc = files' loc) →
    kids.foldl (stepG files anc) p = kids.foldl (stepG files' anc) p :=
  fun kids _ h => List.foldl_rel (r := Eq) rfl fun k hk q _ e => e ▸ stepG_congr files files' anc q k fun loc ht hl =>
    h loc (List.mem_filterMap.mpr ⟨k, hk, by simp [ht, hl]⟩)

/-- any import graph — nesting as deep as the default fuel allows, diamonds, self imports, cycles (an import of a file
    that is being read or has been read is skipped): whenever the pure reader `readFileG` returns a result for the start
    file, `read_xml` returns that document. The hypothesis is decidable; the driver evaluates it on the real parse. -/
theorem c11_graph_read (fs : List XFile) (start : String) (depth : Nat) (hd : 3 * depth ≤ 10000) (r : Doc × RS)
    (h : readFileG (fileTable fs) depth start [] [] { processed := [] } = some r) :
    readXml fs start = .ok r.1 :=
  readXml_graph fs start depth hd r h

/-- … and along the way no file is read twice: the processed list of the result holds every name once -/
theorem c11_graph_read_once (fs : List XFile) (start : String) (depth : Nat) (r : Doc × RS)
    (h : readFileG (fileTable fs) depth start [] [] { processed := [] } = some r) : r.2.processed.Nodup := by
  have hrun := readFileG_sound (fileTable fs) depth 0 start [] [] { processed := [] } r h
  have := C11All.c11_read_once_all_inputs (fileTable fs) start { processed := [] } (0 + 3 * depth) r.1
  simp only [readXmlOn, hrun] at this
  exact this trivial

/-! non-vacuity (the file sets are those of `Props/C11Demo`) -/
example : startFileB demoSet "a.xsd" = true := by decide +kernel

example : (readFileG (fileTable demoCycle) 5 "a.xsd" [] [] { processed := [] }).isSome = true :=
  let ⟨_, h, _⟩ := demoCycle_read
  h ▸ rfl

end ZeepVerif.Props.C11Read
