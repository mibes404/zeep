/-
C06 — a value passes the restriction check exactly when it satisfies the facets.
Stated over the definitions that `zv extract` regenerates from helpers_content.rs on every run (`Generated.Restr`).
-/
import ZeepVerif.Generated.Restrictions
import ZeepVerif.Spec.Facets
import ZeepVerif.Lemmas.Flow

namespace ZeepVerif.Props.C06
open ZeepVerif.Runtime ZeepVerif.Spec ZeepVerif.Generated

/-- the restriction set the emitted code hands to the runtime, read as XSD facets (by field name) -/
def facetsOf (r : Restr.Restrictions) : Facets :=
  { minInclusive := r.min_inclusive, maxInclusive := r.max_inclusive,
    minExclusive := r.min_exclusive, maxExclusive := r.max_exclusive,
    length := r.length, minLength := r.min_length, maxLength := r.max_length,
    enumeration := r.enumeration }

/-- "the value satisfies every facet of the restriction set, if there is one" -/
def SatInt (r : Option Restr.Restrictions) (v : Int) : Prop := ∀ r', r = some r' → (facetsOf r').satInt v
def SatString (r : Option Restr.Restrictions) (s : String) : Prop := ∀ r', r = some r' → (facetsOf r').satString s

theorem check_int_iff (r : Restr.Restrictions) (v : Int) : Restr.check_int v (some r) = .ok ↔ (facetsOf r).satInt v := by
  simp only [Facets.satInt, facetsOf]
  -- one `run_seq_of` per guard; the goal meets `(g.seq rest).run` only by unfolding `check_int`. The final
  -- `Flow.ret Res.ok` leaves a `… = .ok`, which `and_iff_left rfl` drops.
  refine Flow.run_seq_of ?_ <| Flow.run_seq_of ?_ <| Flow.run_seq_of ?_ <| (Flow.run_seq_of ?_ .rfl).trans (and_iff_left rfl)
  · intro k; cases r.min_inclusive <;> simp
  · intro k; cases r.max_inclusive <;> simp
  · intro k; cases r.min_exclusive <;> simp
  · intro k; cases r.max_exclusive <;> simp

/-- the shared integer comparison: every `Int`, every restriction set -/
theorem c06_int_core (r : Option Restr.Restrictions) (v : Int) :
    Restr.check_int v r = .ok ↔ SatInt r v :=
  match r with
  | none => iff_of_true rfl (fun _ h => nomatch h)
  | some r => by simpa only [SatInt, Option.some.injEq, forall_eq'] using check_int_iff r v

/-! ### every integer carrier, over its whole range (in fact over all of `Int`: no narrowing) -/

theorem c06_i8 (r : Option Restr.Restrictions) (v : Int) : Restr.check_i8 r v = .ok ↔ SatInt r v :=
  c06_int_core r v
theorem c06_u8 (r : Option Restr.Restrictions) (v : Int) : Restr.check_u8 r v = .ok ↔ SatInt r v :=
  c06_int_core r v
theorem c06_i16 (r : Option Restr.Restrictions) (v : Int) : Restr.check_i16 r v = .ok ↔ SatInt r v :=
  c06_int_core r v
theorem c06_u16 (r : Option Restr.Restrictions) (v : Int) : Restr.check_u16 r v = .ok ↔ SatInt r v :=
  c06_int_core r v
theorem c06_i32 (r : Option Restr.Restrictions) (v : Int) : Restr.check_i32 r v = .ok ↔ SatInt r v :=
  c06_int_core r v
theorem c06_u32 (r : Option Restr.Restrictions) (v : Int) : Restr.check_u32 r v = .ok ↔ SatInt r v :=
  c06_int_core r v
theorem c06_i64 (r : Option Restr.Restrictions) (v : Int) : Restr.check_i64 r v = .ok ↔ SatInt r v :=
  c06_int_core r v
theorem c06_u64 (r : Option Restr.Restrictions) (v : Int) : Restr.check_u64 r v = .ok ↔ SatInt r v :=
  c06_int_core r v

/-- with no restriction set every integer is accepted by every carrier, also outside its range -/
theorem c06_none (v : Int) :
    Restr.check_i8 none v = .ok ∧ Restr.check_u8 none v = .ok ∧ Restr.check_i16 none v = .ok ∧
    Restr.check_u16 none v = .ok ∧ Restr.check_i32 none v = .ok ∧ Restr.check_u32 none v = .ok ∧
    Restr.check_i64 none v = .ok ∧ Restr.check_u64 none v = .ok := by
  simp [c06_i8, c06_u8, c06_i16, c06_u16, c06_i32, c06_u32, c06_i64, c06_u64, SatInt]

/-- floating-point and boolean carriers are never rejected -/
theorem c06_float_bool (r : Option Restr.Restrictions) (x y : Float) (b : Bool) :
    Restr.check_f32 r x = .ok ∧ Restr.check_f64 r y = .ok ∧ Restr.check_bool r b = .ok := by
  simp [Restr.check_f32, Restr.check_f64, Restr.check_bool]

theorem check_String_iff (r : Restr.Restrictions) (s : String) :
    Restr.check_String (some r) s = .ok ↔
      (∀ n, r.min_length = some n → n ≤ Int.ofNat s.length) ∧ (∀ n, r.max_length = some n → Int.ofNat s.length ≤ n) ∧
      (∀ n, r.length = some n → Int.ofNat s.length = n) ∧ (∀ e, r.enumeration = some e → s ∈ e) ∧
      ((facetsOf r).hasNumeric → ∃ v, lexInt s = some v ∧ inRange "i128" v ∧ (facetsOf r).satInt v) := by
  -- conjuncts in guard order: minLength, maxLength, length, enumeration, numeric
  refine Flow.run_seq_of ?_ <| Flow.run_seq_of ?_ <| Flow.run_seq_of ?_ <| Flow.run_seq_of ?_ ?_
  · intro k; cases r.min_length <;> simp
  · intro k; cases r.max_length <;> simp
  · intro k; cases r.length <;> simp; exact fun _ => eq_comm
  · intro k; cases r.enumeration <;> simp
  · rw [Flow.run_seq_retok]
    refine (or_congr ?_ ?_).trans Decidable.imp_iff_not_or.symm
    · simp [Facets.hasNumeric, facetsOf, and_assoc]
    · simp only [← and_assoc, ← parseInt_eq_ok (ty := "i128") (by decide), ← check_int_iff]
      cases parseInt "i128" s <;> simp

theorem check_String_none (s : String) : Restr.check_String none s = .ok := rfl

theorem check_String_sat (r : Restr.Restrictions) (s : String) (hfit : ∀ v, lexInt s = some v → inRange "i128" v) :
    Restr.check_String (some r) s = .ok ↔ (facetsOf r).satString s :=
  -- by position: ⟨a, b, c, d, e⟩ as above; `satString` has length first (so has `Facets.satStringB_iff`)
  (check_String_iff r s).trans
    ⟨fun ⟨a, b, c, d, e⟩ => ⟨c, a, b, d, fun h => let ⟨v, hv, _, hs⟩ := e h; ⟨v, hv, hs⟩⟩,
      fun ⟨c, a, b, d, e⟩ => ⟨a, b, c, d, fun h => let ⟨v, hv, hs⟩ := e h; ⟨v, hv, hfit v hv, hs⟩⟩⟩

/-- strings: character count (code points) against the length facets, enumeration membership, numeric facets on the
    integer the text denotes. `hfit`: if the text is a numeral it fits 128 bits; beyond that `c06_string_huge`. -/
theorem c06_string (r : Option Restr.Restrictions) (s : String)
    (hfit : ∀ v, lexInt s = some v → inRange "i128" v) :
    Restr.check_String r s = .ok ↔ SatString r s := by
  cases r with
  | none => exact iff_of_true rfl (fun _ h => nomatch h)
  | some r => simpa only [SatString, Option.some.injEq, forall_eq'] using check_String_sat r s hfit

/-- the excluded branch: a numeral beyond 128 bits under a numeric facet is rejected (a parse error), whatever the
    facets say -/
theorem c06_string_huge (r : Restr.Restrictions) (s : String) (v : Int)
    (hnum : (facetsOf r).hasNumeric) (hl : lexInt s = some v) (hbig : ¬ inRange "i128" v) :
    Restr.check_String (some r) s ≠ .ok := fun h =>
  let ⟨_, hv, hin, _⟩ := ((check_String_iff r s).mp h).2.2.2.2 hnum
  hbig (Option.some.inj (hl.symm.trans hv) ▸ hin)

/-- `Option<C>`: checked iff the contained value, when present, is -/
theorem c06_option {C : Type} (chk : Option Restr.Restrictions → C → Res)
    (r : Option Restr.Restrictions) (o : Option C) :
    Restr.check_Option chk r o = .ok ↔ ∀ c, o = some c → chk r c = .ok := by
  cases o <;> simp [Restr.check_Option, Flow.run_seq_ofRes]

/-- `Vec<C>`: checked iff every item is (any length) -/
theorem c06_vec {C : Type} (chk : Option Restr.Restrictions → C → Res)
    (r : Option Restr.Restrictions) (xs : List C) :
    Restr.check_Vec chk r xs = .ok ↔ ∀ x ∈ xs, chk r x = .ok := by
  simp [Restr.check_Vec, run_seq_forEach_ofRes]

/-! ### non-vacuity: concrete boundary instances on both sides of each iff -/

example : Restr.check_i32 (some { min_inclusive := some 1 }) 1 = .ok := by decide
example : Restr.check_i32 (some { min_exclusive := some 1 }) 1 ≠ .ok := by decide
example : Restr.check_i64 none 9223372036854775807 = .ok := by decide
example : Restr.check_u64 (some { min_inclusive := some 0 }) 18446744073709551615 = .ok := by decide
example : Restr.check_i64 (some { max_inclusive := some 2147483647 }) 2147483648 ≠ .ok := by decide
example : SatInt (some { min_inclusive := some 1, max_exclusive := some 3 }) 2 := by
  intro r' h; cases h; simp [facetsOf, Facets.satInt]

end ZeepVerif.Props.C06
