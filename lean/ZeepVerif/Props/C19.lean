/-
C19 — MultiRef<T> is transparent on the wire and for restriction checks.
`MultiRef`'s observable behaviour is *defined from* the forwarding table that the translator extracts
from helpers_content.rs; the theorem says that with the extracted table the wrapper is indistinguishable
from the bare value for every observation the property names.
-/
import ZeepVerif.Generated.Send

namespace ZeepVerif.Props.C19
open ZeepVerif.Generated

/-- what can be observed of a value of type `T` (abstractly): its serialisation, the attributes it
    contributes to the parent's start tag, its restriction verdict, its Debug text -/
structure Obs (α : Type) where
  ser : α
  attrs : α
  check : α
  debug : α
deriving DecidableEq, Repr

def shapeOf (tr m : String) : Option String :=
  (Send.multiRefForwarding.find? (fun r => r.1 == tr && r.2.1 == m)).map (·.2.2)

/-- the observation of `MultiRef<T>` wrapping a value with observation `o`: a method that forwards with
    the same arguments observes the inner value; any other shape is taken to diverge (`other`) -/
def wrapObs {α : Type} (other : α) (o : Obs α) : Obs α :=
  let fwd (tr m : String) (x : α) : α := if shapeOf tr m == some "forward-same-args" then x else other
  { ser := fwd "YaSerialize" "serialize" o.ser,
    attrs := fwd "YaSerialize" "serialize_attributes" o.attrs,
    check := fwd "CheckRestrictions" "check_restrictions" o.check,
    debug := fwd "std::fmt::Debug" "fmt" o.debug }

/-- the table as extracted: every observing method forwards to the inner value with the same arguments;
    deserialisation wraps the inner result; `clone` clones the `Arc` (shares), `default` wraps a default -/
theorem c19_table :
    shapeOf "YaSerialize" "serialize" = some "forward-same-args" ∧
    shapeOf "YaSerialize" "serialize_attributes" = some "forward-same-args" ∧
    shapeOf "CheckRestrictions" "check_restrictions" = some "forward-same-args" ∧
    shapeOf "std::fmt::Debug" "fmt" = some "forward-same-args" ∧
    shapeOf "YaDeserialize" "deserialize" = some "wrap-result-in-arc" ∧
    shapeOf "Clone" "clone" = some "clone-arc" ∧
    shapeOf "Default" "default" = some "default-arc" ∧
    shapeOf "-" "new" = some "wrap-arg-in-arc" := by decide +kernel

/-- transparency: for every value (every observation `o`, whatever a diverging method would show), the
    wrapped value is observed exactly like the bare one -/
theorem c19_transparent {α : Type} (other : α) (o : Obs α) : wrapObs other o = o := by
  obtain ⟨h1, h2, h3, h4, _⟩ := c19_table
  simp [wrapObs, h1, h2, h3, h4]

/-- deserialisation: `deserialize` is the inner deserialiser's result put into a fresh `Arc` — an equal
    value; a clone shares the allocation instead of copying the value -/
theorem c19_de_and_clone :
    shapeOf "YaDeserialize" "deserialize" = some "wrap-result-in-arc" ∧ shapeOf "Clone" "clone" = some "clone-arc" :=
  ⟨c19_table.2.2.2.2.1, c19_table.2.2.2.2.2.1⟩

/-- no method of the wrapper has an unrecognised body -/
theorem c19_no_other : Send.multiRefForwarding.all (fun r => r.2.2 != "other") = true := by decide +kernel

/-! non-vacuity: a table in which `serialize_attributes` returns its input unchanged is *not* transparent (`wrapObs`'s
    `fwd` spelled out: `shapeOf` reads the extracted table only) -/
example : (let fwd (s : String) (x : Nat) : Nat := if s == "forward-same-args" then x else 0
           ({ ser := fwd "forward-same-args" 5, attrs := fwd "other" 7, check := 1, debug := 2 } : Obs Nat)) ≠
          { ser := 5, attrs := 7, check := 1, debug := 2 } := by decide

end ZeepVerif.Props.C19
