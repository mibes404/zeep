/-
The equations of the two `parseStep` functions on the translator's vocabulary, as simp lemmas: `simp [parseStep]` would
unfold the `match` on string literals and compare the literals again at every use (about four million heartbeats for
the helper's twenty steps). `eq_k` belongs to the k-th arm in source order, so a new arm renumbers the later ones. The
equation of the catch-all (`Http.parseStep.eq_15`, `Cli.parseStep.eq_9`) is left out on purpose: a step outside the
vocabulary, like an arm whose equation is missing here, stays a stuck `parseStep "…"`, and the statement about the
run does not go through.
-/
import ZeepVerif.Model.Http
import ZeepVerif.Model.Cli

namespace ZeepVerif.Model

attribute [simp] Http.parseStep.eq_1 Http.parseStep.eq_2 Http.parseStep.eq_3 Http.parseStep.eq_4 Http.parseStep.eq_5
  Http.parseStep.eq_6 Http.parseStep.eq_7 Http.parseStep.eq_8 Http.parseStep.eq_9 Http.parseStep.eq_10 Http.parseStep.eq_11
  Http.parseStep.eq_12 Http.parseStep.eq_13 Http.parseStep.eq_14

attribute [simp] Cli.parseStep.eq_1 Cli.parseStep.eq_2 Cli.parseStep.eq_3 Cli.parseStep.eq_4 Cli.parseStep.eq_5
  Cli.parseStep.eq_6 Cli.parseStep.eq_7 Cli.parseStep.eq_8

end ZeepVerif.Model
