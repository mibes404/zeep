/- The plain fragment at the level of the grammar: in the tree `ComplexDef.toX` renders for a complex type without element
   references the member sites and attributes are plain declarations, and under `PartsOk`, `OccOk` the struct description the
   reader returns for it has, member by member, the XML name, the wrapper and the attribute flag of `Spec.Ref`. No counterpart
   for derivation: `ComplexDef.toX` does not render `cd.base`, and nothing relates `ReadExt.extFields` to `Ref.members`. -/
import ZeepVerif.Lemmas.ReadFile
import ZeepVerif.Props.C02

namespace ZeepVerif.Lemmas.ReadSpec
open ZeepVerif.Model ZeepVerif.Spec ZeepVerif.Lemmas.ReadField ZeepVerif.Lemmas.ReadFile ZeepVerif.Lemmas.Flatten

mutual
def NoRef : Particle → Prop
  | .elem _ _ _ => True
  | .ref _ _ _ => False
  | .seq _ ps => NoRefs ps
  | .choice _ ps => NoRefs ps
def NoRefs : List Particle → Prop
  | [] => True
  | p :: ps => NoRef p ∧ NoRefs ps
end

def siteName (s : XNode × List XNode) : String := (s.1.attr? "name").getD ""

theorem elem_plain (f : SchemaFile) (n : String) (t : TypeRef) (o : Occurs) : PlainDecl ((Particle.elem n t o).toX f) := by
  have h : ∀ nm, nm ≠ "minOccurs" → nm ≠ "maxOccurs" → findAttr (occAttrs o) nm = none := fun nm h1 h2 =>
    find_none fun a ha => by rcases occ_names o a ha with e | e <;> rw [e] <;> exact Ne.symm ‹_›
  exact ⟨rfl, show "element" ≠ "any" by decide, rfl, h "ref" (by decide) (by decide), h "targetNamespace" (by decide) (by decide)⟩

mutual
theorem sites_particle (f : SchemaFile) (p : Particle) (hp : NoRef p) (rest : List XNode) (anc : List XNode) :
    (∀ s ∈ memberSitesList (p.toX f :: rest) anc, PlainDecl s.1 ∨ s ∈ memberSitesList rest anc) ∧
    ∀ (ss : SchemaSet) (uri : String) (opt rep ch : Bool), (memberSitesList (p.toX f :: rest) anc).map siteName =
      (Ref.flattenParticle ss uri opt rep ch p).map (·.xmlName) ++ (memberSitesList rest anc).map siteName := by
  match p with
  | .elem n t o =>
    have hx := elem_plain f n t o
    rw [Particle.toX] at hx ⊢
    rw [Props.C08.c08_element_member]
    refine ⟨fun s hs => ?_, fun ss uri opt rep ch => by rw [Ref.flattenParticle]; rfl⟩
    rcases List.mem_cons.mp hs with rfl | hs
    · exact .inl hx
    · exact .inr hs
  | .ref ns n o => exact hp.elim
  | .seq o ps | .choice o ps =>
    rw [Particle.toX, Props.C08.c08_nested_inline _ _ _ _ _ _ _ (by decide)]
    obtain ⟨i1, i2⟩ := sites_particles f ps hp (_ :: anc)
    refine ⟨fun s hs => (List.mem_append.mp hs).imp (i1 s) id, fun ss uri opt rep ch => ?_⟩
    rw [Ref.flattenParticle, List.map_append, ← i2]
theorem sites_particles (f : SchemaFile) (ps : List Particle) (hp : NoRefs ps) (anc : List XNode) :
    (∀ s ∈ memberSitesList (particlesToX f ps) anc, PlainDecl s.1) ∧
    ∀ (ss : SchemaSet) (uri : String) (opt rep ch : Bool), (memberSitesList (particlesToX f ps) anc).map siteName =
      (Ref.flattenParticles ss uri opt rep ch ps).map (·.xmlName) := by
  match ps with
  | [] => exact ⟨fun _ h => (nomatch h), fun _ _ _ _ _ => rfl⟩
  | p :: ps =>
    obtain ⟨a1, a2⟩ := sites_particle f p hp.1 (particlesToX f ps) anc
    obtain ⟨b1, b2⟩ := sites_particles f ps hp.2 anc
    rw [sites_cons]
    refine ⟨fun s hs => (a1 s hs).elim id (b1 s), fun ss uri opt rep ch => ?_⟩
    rw [a2, b2, Ref.flattenParticles, List.map_append]
end

mutual
theorem tags_particle (f : SchemaFile) (p : Particle) (rest : List XNode) (anc : List XNode)
    (hr : ∀ s ∈ memberSitesList rest anc, s.1.tag = "element") :
    ∀ s ∈ memberSitesList (p.toX f :: rest) anc, s.1.tag = "element" := by
  match p with
  | .elem .. | .ref .. =>
    rw [Particle.toX, Props.C08.c08_element_member]
    exact fun s hs => (List.mem_cons.mp hs).elim (fun e => by subst e; rfl) (hr s)
  | .seq o ps | .choice o ps =>
    rw [Particle.toX, Props.C08.c08_nested_inline _ _ _ _ _ _ _ (by decide)]
    exact fun s hs => (List.mem_append.mp hs).elim (tags_particles f ps _ s) (hr s)
theorem tags_particles (f : SchemaFile) (ps : List Particle) (anc : List XNode) :
    ∀ s ∈ memberSitesList (particlesToX f ps) anc, s.1.tag = "element" := by
  match ps with
  | [] => exact fun _ h => nomatch h
  | p :: ps =>
    rw [sites_cons]
    exact tags_particle f p (particlesToX f ps) anc (tags_particles f ps anc)
end

/-- what the properties look at in a field: XML name, wrapper, attribute flag -/
def fieldObs (fld : Field) : String × String × Bool :=
  (fld.xmlName, Ref.wrapperOf fld.isOptional fld.isVec fld.isChoice, fld.isAttribute)

def refObs (r : Ref.RField) : String × String × Bool := (r.xmlName, r.wrapper, r.isAttr)

theorem elemKids_attrs (f : SchemaFile) : (as : List AttrDecl) →
    (attrsToX f as).filter XNode.isElem = as.map (AttrDecl.toX f)
  | [] => rfl
  | a :: as => by
    rw [attrsToX, List.filter_cons_of_pos (show (a.toX f).isElem = true from rfl),
      List.filter_cons_of_neg (show ¬XNode.other.isElem = true by decide), elemKids_attrs f as, List.map_cons]

theorem fieldObs_plain (d : Doc) (x : XNode) (anc : List XNode) :
    fieldObs (plainField d x anc) = (siteName (x, anc), W (x, anc), x.tag == "attribute") := rfl

theorem attr_plain (f : SchemaFile) (a : AttrDecl) : PlainDecl (a.toX f) := by
  rcases a with ⟨n, ty, _ | _⟩ <;> exact ⟨rfl, show "attribute" ≠ "any" by decide, rfl, rfl, rfl⟩

theorem attr_obs (s : SchemaSet) (f : SchemaFile) (d : Doc) (a : AttrDecl) (owner : XNode) (above : List XNode)
    (hown : isParticleTag owner.tag = false) :
    fieldObs (plainField d (a.toX f) (owner :: above)) = refObs (Ref.attrField s a) := by
  simp only [fieldObs, plainField, occurrence, enclosing_stop owner above hown]
  rcases a with ⟨n, ty, _ | _⟩ <;> rfl

mutual
theorem flatten_notAttr (s : SchemaSet) (uri : String) (opt rep ch : Bool) (p : Particle) :
    ∀ r ∈ Ref.flattenParticle s uri opt rep ch p, r.isAttr = false := by
  match p with
  | .elem .. | .ref .. => intro r hr; simp [Ref.flattenParticle] at hr; rw [hr]
  | .seq o ps | .choice o ps => rw [Ref.flattenParticle]; exact flattens_notAttr s uri _ _ _ ps
theorem flattens_notAttr (s : SchemaSet) (uri : String) (opt rep ch : Bool) (ps : List Particle) :
    ∀ r ∈ Ref.flattenParticles s uri opt rep ch ps, r.isAttr = false := by
  match ps with
  | [] => exact fun _ hr => nomatch hr
  | p :: ps =>
    rw [Ref.flattenParticles]
    exact fun r hr => (List.mem_append.mp hr).elim (flatten_notAttr s uri opt rep ch p r) (flattens_notAttr s uri opt rep ch ps r)
end

theorem obs_eq (d : Doc) : (sites : List (XNode × List XNode)) → (rs : List Ref.RField) →
    (∀ st ∈ sites, st.1.tag = "element") → (∀ r ∈ rs, r.isAttr = false) →
    sites.map siteName = rs.map (·.xmlName) → sites.map W = rs.map (·.wrapper) →
    (sites.map fun st => plainField d st.1 st.2).map fieldObs = rs.map refObs
  | [], [], _, _, _, _ => rfl
  | [], _ :: _, _, _, h, _ | _ :: _, [], _, _, h, _ => by simp at h
  | st :: sites, r :: rs, ht, ha, hn, hw => by
    simp only [List.map_cons, List.cons.injEq] at hn hw ⊢
    refine ⟨?_, obs_eq d sites rs (fun x hx => ht x (List.mem_cons_of_mem _ hx)) (fun x hx => ha x (List.mem_cons_of_mem _ hx)) hn.2 hw.2⟩
    rw [fieldObs_plain, ht st List.mem_cons_self, hn.1, hw.1, refObs, ha r List.mem_cons_self]
    rfl

theorem foldl_attrs (d : Doc) (name : String) (anc : List XNode) (f : SchemaFile) : (as : List AttrDecl) → (r : CProps) →
    (as.map (AttrDecl.toX f)).foldl (complexStep d name anc) r =
      { r with fields := r.fields ++ as.map (fun a => plainField d (a.toX f) anc) }
  | [], r => by simp
  | a :: as, r => by
    rw [List.map_cons, List.foldl_cons]
    have h1 : complexStep d name anc r (a.toX f) = { r with fields := r.fields ++ [plainField d (a.toX f) anc] } := by
      simp [complexStep, AttrDecl.toX, XNode.tag]
    rw [h1, foldl_attrs d name anc f as]
    simp

/-- `complexOf` is what the reader returns by `ReadExt.complexFromNode_plain`. No hypothesis excludes a base, but
    `cd.toX` does not render one: both sides hold the definition's own members only. -/
theorem complex_read_matches_ref (s : SchemaSet) (f : SchemaFile) (d : Doc) (cd : ComplexDef) (name : String)
    (nss : List (Option String × String)) (anc : List XNode)
    (hnr : ∀ o ps, cd.content = some (o, ps) → NoRefs ps ∧ PartsOk ps ∧ OccOk o) :
    (complexOf d (cd.toX f name nss) anc name).fields.map fieldObs =
      (Ref.ownElements s f cd ++ cd.attrs.map (Ref.attrField s)).map refObs := by
  have hown : isParticleTag (cd.toX f name nss).tag = false := show isParticleTag "complexType" = false by decide
  have hk : (cd.toX f name nss).elemKids =
      (match cd.content with
        | some (o, ps) => [XNode.elem "sequence" (occAttrs o) [] none (particlesToX f ps), XNode.other]
        | none => []).filter XNode.isElem ++ cd.attrs.map (AttrDecl.toX f) := by
    rw [← elemKids_attrs, ← List.filter_append]
    rfl
  -- the `sequence` child first (it sets the fields), then one field per attribute
  rw [complexOf, hk, List.foldl_append, foldl_attrs, List.map_append, List.map_append, List.map_map, List.map_map]
  congr 1
  · cases hc : cd.content with
    | none =>
      rw [Ref.ownElements, hc]
      rfl
    | some c =>
      obtain ⟨o, ps⟩ := c
      obtain ⟨hn, hp, ho⟩ := hnr o ps hc
      have hW := Props.C02.c02_type_content s f cd o ps hc ho hp (cd.toX f name nss) anc hown
      rw [Ref.ownElements, hc] at hW ⊢
      -- the fold over the one `sequence` child computes to the fields of its member sites
      exact obs_eq d _ _ (tags_particles f ps _) (flattens_notAttr s _ _ _ _ ps)
        ((sites_particles f ps hn _).2 s (uriOf s f.tns) o.optional o.repeats false) hW
  · exact List.map_congr_left fun a _ => attr_obs s f d a _ anc hown

end ZeepVerif.Lemmas.ReadSpec
