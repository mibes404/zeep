/-
Termination of the node-level reader, for every tree. The one recursion of the mutual block that is not structural — the
forward-reference fallback of `findNodeByXmlName`, which re-enters `tryFromNode` — pushes a key onto `resolving` only when it
is not there; every key is one of finitely many determined by the file (`keySpace`) and seven levels of calls separate two
pushes (`Frame.Fits`). So with `fuel ≥ 7 * keySpace.length + 7` no call runs out of fuel, and the stack is handed back as it
was found. `BlockBounded` states this; the theorem `block_bounded` is at the end of `Lemmas/Frame`.
Hypothesis `SchemasHaveTns`: for a schema without `targetNamespace` the key contains the namespace of the *reference*, of
which there can be as many as the file declares prefixes; that bound is not tracked.
-/
import ZeepVerif.Lemmas.Keeps

namespace ZeepVerif.Lemmas.Depth
open ZeepVerif.Model Std.Do

abbrev Key := String × Option String × String

/-- the keys (entries of `Doc.resolving`) the fallback can push for the element `p.1` with parent `p.2.head?` (`key_mem`). Six: the
    three `Kind.name`s, times the namespace asked for: `none` or, by the test in `findGlobalComponent`, the parent's `targetNamespace` -/
def keysOf (p : XNode × List XNode) : List Key :=
  match p.2.head?, p.1.attr? "name" with
  | some schema, some nm =>
    [((splitType nm).1, none, "type"), ((splitType nm).1, none, "element"), ((splitType nm).1, none, "any"),
     ((splitType nm).1, schema.attr? "targetNamespace", "type"), ((splitType nm).1, schema.attr? "targetNamespace", "element"),
     ((splitType nm).1, schema.attr? "targetNamespace", "any")]
  | _, _ => []

def keySpace (all : List (XNode × List XNode)) : List Key := all.flatMap keysOf

def SchemasHaveTns (all : List (XNode × List XNode)) : Prop :=
  ∀ p ∈ all, ∀ schema, p.2.head? = some schema → schema.tag = "schema" → (schema.attr? "targetNamespace").isSome = true

theorem keysOf_length (p : XNode × List XNode) : (keysOf p).length ≤ 6 := by
  unfold keysOf
  split <;> simp

theorem keySpace_length (all : List (XNode × List XNode)) : (keySpace all).length ≤ 6 * all.length := by
  unfold keySpace
  induction all with
  | nil => simp
  | cons p rest ih =>
    simp only [List.flatMap_cons, List.length_append, List.length_cons]
    have := keysOf_length p
    omega

theorem key_mem (ctx : Ctx) (d : Doc) (x : String) (ns : Option Ns) (k : Kind) (n : XNode) (anc : List XNode)
    (h : findGlobalComponent ctx d x ns k = some (n, anc)) (ht : SchemasHaveTns ctx.allElems) :
    (x, ns.map (·.uri), k.name) ∈ keySpace ctx.allElems := by
  obtain ⟨hmem, schema, nm, hh, hst, _, hns, hnm, hx⟩ := findGlobalComponent_some h
  obtain ⟨t, ht'⟩ := Option.isSome_iff_exists.mp (ht (n, anc) hmem schema hh hst)
  refine List.mem_flatMap.mpr ⟨(n, anc), hmem, ?_⟩
  have hx : (splitType nm).1 = x := hx
  simp only [keysOf, hh, hnm, hx, ht']
  cases ns with
  | none => cases k <;> simp [Kind.name]
  | some w => cases k <;> simp [Kind.name, hns w t rfl ht']

/-- pigeonhole, for the `resolving` stack inside the key space and for the marked files among the registered names -/
theorem room {α} (S l : List α) (x : α) (hnd : l.Nodup) (hsub : ∀ a ∈ l, a ∈ S) (hx : x ∈ S) (hnot : x ∉ l) :
    l.length + 1 ≤ S.length :=
  (List.nodup_cons.mpr ⟨hnot, hnd⟩).length_le_of_subset (List.cons_subset.mpr ⟨hx, hsub⟩)

theorem switch_resolving (d : Doc) (ns : String) : (d.switchToTargetNamespace ns).resolving = d.resolving :=
  d.switchToTargetNamespace_elim ns (fun _ => rfl) fun _ _ _ => rfl

theorem collect_resolving (d : Doc) (nss : List (Option String × String)) : (d.collectNamespaces nss).resolving = d.resolving := by
  obtain ⟨_, _, _, h⟩ := d.collectNamespaces_frame nss
  rw [h]

abbrev Bounded (rs : List Key) {α} (x : NM α) : Prop :=
  ⦃fun d => ⌜d.resolving = rs⌝⦄ x ⦃post⟨fun _ d' => ⌜d'.resolving = rs⌝, fun e d' => ⌜d'.resolving = rs ∧ e ≠ Err.outOfFuel⌝⟩⦄

structure BlockBounded (all : List (XNode × List XNode)) (fuel : Nat) : Prop where
  tfn : ∀ node ctx rs, ctx.allElems = all → rs.Nodup → (∀ k ∈ rs, k ∈ keySpace all) →
    7 * ((keySpace all).length - rs.length) + 7 ≤ fuel → Bounded rs (tryFromNode node ctx fuel)
  elt : ∀ node ctx rs, ctx.allElems = all → rs.Nodup → (∀ k ∈ rs, k ∈ keySpace all) →
    7 * ((keySpace all).length - rs.length) + 6 ≤ fuel → Bounded rs (elementFromNode node ctx fuel)
  cpx : ∀ node ctx rs, ctx.allElems = all → rs.Nodup → (∀ k ∈ rs, k ∈ keySpace all) →
    7 * ((keySpace all).length - rs.length) + 5 ≤ fuel → Bounded rs (complexFromNode node ctx fuel)
  ext : ∀ node ctx rs, ctx.allElems = all → rs.Nodup → (∀ k ∈ rs, k ∈ keySpace all) →
    7 * ((keySpace all).length - rs.length) + 4 ≤ fuel → Bounded rs (importExtension node ctx fuel)
  seq : ∀ node ctx acc rs, ctx.allElems = all → rs.Nodup → (∀ k ∈ rs, k ∈ keySpace all) →
    7 * ((keySpace all).length - rs.length) + 3 ≤ fuel → Bounded rs (importSequence node ctx acc fuel)
  fld : ∀ node ctx rs, ctx.allElems = all → rs.Nodup → (∀ k ∈ rs, k ∈ keySpace all) →
    7 * ((keySpace all).length - rs.length) + 2 ≤ fuel → Bounded rs (fieldFromNode node ctx fuel)
  fnd : ∀ ctx x ns k rs, ctx.allElems = all → rs.Nodup → (∀ k ∈ rs, k ∈ keySpace all) →
    7 * ((keySpace all).length - rs.length) + 1 ≤ fuel → Bounded rs (findNodeByXmlName ctx x ns k fuel)

end ZeepVerif.Lemmas.Depth
