/-
`read_xml` never runs out of fuel, for every file table (any import graph) whose files meet `TableOK` (decided by `tableOKB`):
every `schema` element with element children has a `targetNamespace`, and the file is small enough for the node-level budget, a
constant of the model. A file is marked before its imports are followed and an import of a marked file is skipped, so at most
one `read_xml_internal` per file name is on the stack; three levels of calls separate two of them.
-/
import ZeepVerif.Lemmas.KeepsFile

namespace ZeepVerif.Lemmas.DepthFile
open ZeepVerif.Model Std.Do ZeepVerif.Lemmas.Keeps ZeepVerif.Lemmas.KeepsFile ZeepVerif.Lemmas.Depth ZeepVerif.Lemmas.FileSteps
  ZeepVerif.Lemmas.Frame

def ElemsOK (all : List (XNode × List XNode)) : Prop :=
  SchemasHaveTns all ∧ 7 * (keySpace all).length + 7 ≤ nodeFuel

theorem fits_nodeFuel {all : List (XNode × List XNode)} (h : ElemsOK all) {ctx : Ctx} (hc : ctx.allElems = all) (c : Nat) (hc7 : c ≤ 7) :
    Fits all ctx [] c nodeFuel :=
  ⟨h.1, hc, List.nodup_nil, by simp, by have := h.2; simp only [List.length_nil, Nat.sub_zero]; omega⟩

theorem bounded_tfn (all : List (XNode × List XNode)) (h : ElemsOK all) (node : XNode) (ctx : Ctx) (hc : ctx.allElems = all) :
    Bounded [] (tryFromNode node ctx nodeFuel) :=
  (block_bounded all h.1 nodeFuel).tfn node ctx [] hc List.nodup_nil (fun _ hk => nomatch hk) (by simpa using h.2)

theorem bounded_run {α} (x : NM α) (h : Bounded [] x) (d : Doc) (hd : d.resolving = []) :
    (runNM x d).2.resolving = [] ∧ (runNM x d).1 ≠ .error .outOfFuel := by
  have hr := run_of_triple h hd
  refine ⟨?_, fun he => (hr.2 _ he).2 rfl⟩
  cases h1 : (runNM x d).1 with
  | ok a => exact hr.1 a h1
  | error e => exact (hr.2 e h1).1

def TableOK (files : String → Option XFile) : Prop :=
  ∀ n f tops, files n = some f → f.tops = some tops → ElemsOK (allElemsOf tops [])

def NamesIn (files : String → Option XFile) (S : List String) : Prop := ∀ n f, files n = some f → n ∈ S

def StOK (S : List String) (st : RS) : Prop := st.processed.Nodup ∧ ∀ n ∈ st.processed, n ∈ S

/-- `p` is a lower bound on the number of marked files, not their number: a call marks its own file and, through imports, any
    number of others, and the caller's budget only needs that the number has not gone down. Three levels for each file that
    may still get marked: `int` → `top` (+ 2) → `xsd` (+ 1) → `int` for an import. -/
structure FileBounded (files : String → Option XFile) (S : List String) (fuel : Nat) : Prop where
  int : ∀ name known kn (p : Nat), (files name).isSome = true → 3 * (S.length - p) ≤ fuel →
    ⦃fun st => ⌜StOK S st ∧ name ∉ st.processed ∧ p ≤ st.processed.length⌝⦄ readXmlInternal files name known kn fuel
    ⦃post⟨fun d st' => ⌜d.resolving = [] ∧ StOK S st' ∧ p ≤ st'.processed.length⌝, fun e => ⌜e ≠ Err.outOfFuel⌝⟩⦄
  top : ∀ file all node d (p : Nat), ElemsOK all → d.resolving = [] → 3 * (S.length - p) + 2 ≤ fuel →
    ⦃fun st => ⌜StOK S st ∧ p ≤ st.processed.length⌝⦄ readTop files file all node d fuel
    ⦃post⟨fun d' st' => ⌜d'.resolving = [] ∧ StOK S st' ∧ p ≤ st'.processed.length⌝, fun e => ⌜e ≠ Err.outOfFuel⌝⟩⦄
  xsd : ∀ file all schema anc d (p : Nat), ElemsOK all → d.resolving = [] → 3 * (S.length - p) + 1 ≤ fuel →
    ⦃fun st => ⌜StOK S st ∧ p ≤ st.processed.length⌝⦄ readXsd files file all schema anc d fuel
    ⦃post⟨fun d' st' => ⌜d'.resolving = [] ∧ StOK S st' ∧ p ≤ st'.processed.length⌝, fun e => ⌜e ≠ Err.outOfFuel⌝⟩⦄

def TravInv (S : List String) (p : Nat) (d : Doc) (st : RS) : Prop := d.resolving = [] ∧ StOK S st ∧ p ≤ st.processed.length

theorem file_bounded (files : String → Option XFile) (S : List String) (hT : TableOK files) (hS : NamesIn files S) :
    ∀ fuel, FileBounded files S fuel := by
  -- a registered file that is not marked: not every name of `S` is
  have hroom : ∀ name st, (files name).isSome = true → StOK S st → name ∉ st.processed → st.processed.length + 1 ≤ S.length :=
    fun name st hsome h hn =>
      let ⟨f, hf⟩ := Option.isSome_iff_exists.mp hsome
      room S st.processed name h.1 h.2 (hS name f hf) hn
  intro fuel
  induction fuel with
  | zero =>
    refine ⟨fun name known kn p hsome hf st h => ?_, fun _ _ _ _ _ _ _ hf => by omega, fun _ _ _ _ _ _ _ _ hf => by omega⟩
    have := hroom name st hsome h.1 h.2.1
    have := h.2.2
    omega
  | succ fuel ih =>
    have hnode : ∀ {α} (x : NM α) (push : Doc → α → Doc) p, Bounded [] x → (∀ d a, (push d a).resolving = d.resolving) →
        Step (TravInv S p) (· ≠ Err.outOfFuel) (nodeStep x push) :=
      fun x push p hx hpush => Step.ofNode x push
        (fun d st a hd _ => ⟨(hpush _ a).trans (bounded_run x hx d hd.1).1, hd.2⟩)
        (fun d st e hd he heq => (bounded_run x hx d hd.1).2 (by rw [he, heq]))
    have hxsd : ∀ file all schema anc p, ElemsOK all → 3 * (S.length - p) + 1 ≤ fuel + 1 →
        Step (TravInv S p) (· ≠ Err.outOfFuel) (readXsd files file all schema anc · (fuel + 1)) := by
      intro file all schema anc p ha hf
      refine Step.ofXsd files file all schema anc fuel (fun child => ?_) (fun child => ?_)
      · refine Step.ofImport files fuel child (by decide) (by decide) fun d loc f hloc st hst => ?_
        exact conseq_FM (ih.int loc d.namespaces (d.knownNodes ++ d.nodes) p (by simp [hloc]) (by omega))
          (fun imp st' h => ⟨hst.1.1, h.2⟩) (fun _ => id) st ⟨hst.1.2.1, hst.2, hst.1.2.2⟩
      · have hb := fun d hd => bounded_run _ (bounded_tfn all ha child { ancestors := schema :: anc, allElems := all } rfl) d hd
        exact Step.ofComp _ child (fun d st n hd _ => ⟨(hb d hd.1).1, hd.2⟩)
          (fun d st e hd he => ⟨⟨(hb d hd.1).1, hd.2⟩, fun heq _ => (hb d hd.1).2 (by rw [he, heq])⟩)
    refine ⟨fun name known kn p hsome hf => ?_, fun file all node d p ha hd hf st hst => ?_,
      fun file all schema anc d p ha hd hf st hst => hxsd file all schema anc p ha hf d st ⟨hd, hst⟩⟩
    · -- for `p ≥ |S|` the truncated subtraction asks for no fuel, but then the precondition is contradictory (`hroom`)
      by_cases hp : p < S.length
      · refine readXmlInternal_rule (I := TravInv S (p + 1)) files name known kn fuel (by decide) (by decide)
          (fun st h h' => absurd h' h.2.1) (fun st file tops h hn hfile _ => ⟨?_, ⟨List.nodup_cons.mpr ⟨hn, h.1.1⟩, ?_⟩, ?_⟩)
          (fun file tops node hfile ht d st hd => ih.top file _ node d (p + 1) (hT _ _ _ hfile ht) hd.1 (by omega) st hd.2)
          (fun d st h => ⟨h.1, h.2.1, by have := h.2.2; omega⟩)
        · unfold FileSteps.rootDoc
          split
          · rw [collect_resolving]
          · rfl
        · intro n hn'
          rcases List.mem_cons.mp hn' with rfl | hn'
          · exact hS _ file hfile
          · exact h.1.2 n hn'
        · simp only [List.length_cons]; have := h.2.2; omega
      · intro st h
        have := hroom name st hsome h.1 h.2.1
        have := h.2.2
        omega
    · exact Step.ofTop files file all node fuel (fun schema anc d st h => ih.xsd file all schema anc d p ha h.1 (by omega) st h.2)
        (fun d st tns h => ⟨(switch_resolving d tns).trans h.1, h.2⟩) (by decide)
        (fun child => hnode _ _ p ((frame_message docInv_true all child _ [] nodeFuel).bounded (fits_nodeFuel ha rfl 1 (by decide)))
          (fun _ _ => rfl))
        (fun child => hnode _ _ p ((frame_port _ [] True child).bounded trivial) (fun _ _ => rfl))
        (fun child => hnode _ _ p ((frame_binding _ [] True child file.urls).bounded trivial) (fun _ _ => rfl))
        (fun child => hnode _ _ p ((frame_service _ [] True child file.urls).bounded trivial) (fun _ _ => rfl)) d st ⟨hd, hst⟩

theorem fileTable_names (fs : List XFile) : NamesIn (fileTable fs) (fs.map (·.name)) := by
  intro n f h
  unfold fileTable at h
  have hm := List.mem_of_find?_eq_some h
  have hp := List.find?_some h
  have : f.name = n := by simpa using hp
  rw [← this]
  exact List.mem_map_of_mem hm

/-- three per file suffice (`file_bounded`); the `+ 3` is slack, used only to have `fuel ≥ 1` when the start file is not registered -/
theorem readXml_never_out_of_fuel (fs : List XFile) (start : String) (fuel : Nat) (hT : TableOK (fileTable fs))
    (hf : 3 * fs.length + 3 ≤ fuel) : readXml fs start fuel ≠ .error .outOfFuel := by
  cases hs : fileTable fs start with
  | none =>
    obtain ⟨f', rfl⟩ : ∃ f', fuel = f' + 1 := ⟨fuel - 1, by omega⟩
    rw [readXml, readXmlOn, readXmlInternal_succ, hs]
    nofun
  | some f =>
    have hb := (file_bounded (fileTable fs) (fs.map (·.name)) hT (fileTable_names fs) fuel).int start [] [] 0
      (by simp [hs]) (by simp; omega)
    exact fun he => (readXmlOn_of_triple hb {} ⟨⟨List.nodup_nil, by simp⟩, by simp, by simp⟩).2 _ he rfl

def elemsOKB (all : List (XNode × List XNode)) : Bool :=
  all.all (fun p => match p.2.head? with
    | some s => s.tag != "schema" || (s.attr? "targetNamespace").isSome
    | none => true) &&
  decide (7 * (keySpace all).length + 7 ≤ nodeFuel)

def tableOKB (fs : List XFile) : Bool :=
  fs.all (fun f => match f.tops with
    | some tops => elemsOKB (allElemsOf tops [])
    | none => true)

theorem elemsOKB_sound (all : List (XNode × List XNode)) (h : elemsOKB all = true) : ElemsOK all := by
  simp only [elemsOKB, Bool.and_eq_true, List.all_eq_true, decide_eq_true_eq] at h
  refine ⟨fun p hp schema hh ht => ?_, h.2⟩
  have := h.1 p hp
  simp only [hh, Bool.or_eq_true, bne_iff_ne, ne_eq] at this
  exact this.resolve_left (· ht)

theorem tableOKB_sound (fs : List XFile) (h : tableOKB fs = true) : TableOK (fileTable fs) := by
  intro n f tops hf ht
  have hm : f ∈ fs := List.mem_of_find?_eq_some hf
  simp only [tableOKB, List.all_eq_true] at h
  have := h f hm
  simp only [ht] at this
  exact elemsOKB_sound _ this

end ZeepVerif.Lemmas.DepthFile