/- The model's traversal of a type's content (`memberSites`) together with its occurrence computation yields, on the
   XML rendering of a particle tree with `PartsOk`, the same sequence of wrappers as the reference flattening
   `Spec.Ref.flattenParticles` (for `Props/C02`). -/
import ZeepVerif.Spec.ToX
import ZeepVerif.Lemmas.MayRepeat
import Std.Data.String.ToNat
import ZeepVerif.Props.C08

namespace ZeepVerif.Lemmas.Flatten
open ZeepVerif.Model ZeepVerif.Spec

def u64max : Nat := 18446744073709551615
/-- `may_repeat` parses `maxOccurs` as `u64`: a larger number counts as "at most one", unlike in `Occurs.repeats` -/
def OccOk (o : Occurs) : Prop := ∀ n, o.max = some n → n ≤ u64max

def findAttr (attrs : List XAttr) (name : String) : Option String :=
  (attrs.find? (fun a => a.name == name && a.ns.isNone)).map (·.value)

theorem attr_eq_findAttr (t : String) (attrs nss tx kids) (name : String) :
    (XNode.elem t attrs nss tx kids).attr? name = findAttr attrs name := rfl

theorem occ_optional (o : Occurs) : (findAttr (occAttrs o) "minOccurs" == some "0") = o.optional := by
  unfold occAttrs Occurs.optional
  split
  · next h =>
    rw [show o.min = 1 by simpa using h, List.nil_append]
    split <;> rfl
  · show (some (toString o.min) == some "0") = (o.min == 0)
    rw [Option.some_beq_some, Bool.eq_iff_iff, beq_iff_eq, beq_iff_eq]
    exact Nat.repr_inj (n := 0)

theorem find_append_none {l : List XAttr} (m : List XAttr) {name : String} (hl : ∀ a ∈ l, a.name ≠ name) :
    findAttr (l ++ m) name = findAttr m name := by
  unfold findAttr
  have hf : l.find? (fun a => a.name == name && a.ns.isNone) = none := by
    rw [List.find?_eq_none]; intro a ha; simp [hl a ha]
  rw [List.find?_append, hf]; rfl

theorem find_none {l : List XAttr} {name : String} (h : ∀ a ∈ l, a.name ≠ name) : findAttr l name = none := by
  rw [← List.append_nil l, find_append_none [] h]
  rfl

theorem occ_names (o : Occurs) : ∀ a ∈ occAttrs o, a.name = "minOccurs" ∨ a.name = "maxOccurs" := by
  unfold occAttrs
  intro a ha
  rcases List.mem_append.mp ha with h | h
  · split at h
    · cases h
    · exact .inl (List.mem_singleton.mp h ▸ rfl)
  · split at h
    · cases h
    all_goals exact .inr (List.mem_singleton.mp h ▸ rfl)

theorem occ_repeats (o : Occurs) (hok : OccOk o) : mayRepeat (findAttr (occAttrs o) "maxOccurs") = o.repeats := by
  unfold occAttrs
  rw [find_append_none _ (by intro a ha; split at ha <;> simp_all)]
  unfold findAttr Occurs.repeats
  rcases hm : o.max with _ | n
  · simp [mayRepeat_unbounded]
  · by_cases hn : n = 1
    · subst hn; simp [mayRepeat_none]
    · have hb : n ≤ u64max := hok n hm
      have := mayRepeat_repr n hb
      simp [this, show toString n = Nat.repr n from rfl]

def wrapOfOcc (o : Occ) : String := if o.isVec then "Vec" else if o.isOptional || o.isChoice then "Option" else "T"

def ancOpt (anc : List XNode) : Bool := (enclosingParticles anc).any (fun n => n.attr? "minOccurs" == some "0")
def ancRep (anc : List XNode) : Bool := (enclosingParticles anc).any (fun n => mayRepeat (n.attr? "maxOccurs"))
def ancCh (anc : List XNode) : Bool := (enclosingParticles anc).any (fun n => n.tag == "choice")

def W (site : XNode × List XNode) : String := wrapOfOcc (occurrence site.1 site.2)

theorem wrapOfOcc_eq (o : Occ) : wrapOfOcc o = Ref.wrapperOf o.isOptional o.isVec o.isChoice := rfl

theorem W_eq (x : XNode) (anc : List XNode) (h : (x.tag == "attribute") = false) :
    W (x, anc) = Ref.wrapperOf (x.attr? "minOccurs" == some "0" || ancOpt anc)
      (mayRepeat (x.attr? "maxOccurs") || ancRep anc) (ancCh anc) := by
  simp only [W, wrapOfOcc_eq, occurrence, h, Bool.false_eq_true, if_false, ancOpt, ancRep, ancCh]

theorem enclosing_cons (x : XNode) (anc : List XNode) (h : isParticleTag x.tag = true) :
    enclosingParticles (x :: anc) = x :: enclosingParticles anc := by
  rw [enclosingParticles, List.takeWhile_cons, if_pos h]; rfl

theorem enclosing_stop (x : XNode) (anc : List XNode) (h : isParticleTag x.tag = false) :
    enclosingParticles (x :: anc) = [] := by
  rw [enclosingParticles, List.takeWhile_cons, if_neg (by simp [h])]

/-- nothing above the owner of a content model (a `complexType`, an `extension`) influences occurrence -/
theorem anc_stop (x : XNode) (anc : List XNode) (h : isParticleTag x.tag = false) :
    ancOpt (x :: anc) = false ∧ ancRep (x :: anc) = false ∧ ancCh (x :: anc) = false := by
  simp only [ancOpt, ancRep, ancCh, enclosing_stop x anc h, List.any_nil, and_self]

mutual
def PartOk : Particle → Prop
  | .elem _ _ o => OccOk o
  | .ref _ _ o => OccOk o
  | .seq o ps => OccOk o ∧ PartsOk ps
  | .choice o ps => OccOk o ∧ PartsOk ps
def PartsOk : List Particle → Prop
  | [] => True
  | p :: ps => PartOk p ∧ PartsOk ps
end

theorem leaf_wrapper (attrs0 : List XAttr) (o : Occurs) (hok : OccOk o) (anc : List XNode)
    (h0 : ∀ a ∈ attrs0, a.name ≠ "minOccurs" ∧ a.name ≠ "maxOccurs") :
    W (XNode.elem "element" (attrs0 ++ occAttrs o) [] none [], anc) =
      Ref.wrapperOf (ancOpt anc || o.optional) (ancRep anc || o.repeats) (ancCh anc) := by
  rw [W_eq (.elem "element" (attrs0 ++ occAttrs o) [] none []) anc (show ("element" == "attribute") = false by decide),
    attr_eq_findAttr, attr_eq_findAttr, find_append_none _ fun a ha => (h0 a ha).1,
    find_append_none _ fun a ha => (h0 a ha).2, occ_optional, occ_repeats o hok, Bool.or_comm, Bool.or_comm o.repeats]

/-- the flags under a rendered sequence or choice; `t == "choice"` stands first so that it computes away -/
theorem anc_particle (t : String) (o : Occurs) (kids : List XNode) (anc : List XNode) (ht : isParticleTag t = true)
    (hok : OccOk o) :
    ancOpt (XNode.elem t (occAttrs o) [] none kids :: anc) = (ancOpt anc || o.optional) ∧
    ancRep (XNode.elem t (occAttrs o) [] none kids :: anc) = (ancRep anc || o.repeats) ∧
    ancCh (XNode.elem t (occAttrs o) [] none kids :: anc) = (t == "choice" || ancCh anc) := by
  simp only [ancOpt, ancRep, ancCh, enclosing_cons (.elem t (occAttrs o) [] none kids) anc ht, List.any_cons,
    attr_eq_findAttr, occ_optional, occ_repeats o hok]
  exact ⟨Bool.or_comm _ _, Bool.or_comm _ _, rfl⟩

theorem sites_cons (f : SchemaFile) (p : Particle) (ps : List Particle) (anc : List XNode) :
    memberSitesList (particlesToX f (p :: ps)) anc = memberSitesList (p.toX f :: particlesToX f ps) anc :=
  (Props.C08.c08_attributes_skipped [] [] none [] _ anc).2

mutual
theorem flatten_particle (s : SchemaSet) (f : SchemaFile) (uri : String) (p : Particle) (hp : PartOk p)
    (rest : List XNode) (anc : List XNode) :
    (memberSitesList (p.toX f :: rest) anc).map W =
      (Ref.flattenParticle s uri (ancOpt anc) (ancRep anc) (ancCh anc) p).map (·.wrapper) ++ (memberSitesList rest anc).map W := by
  match p with
  | .elem _ _ o | .ref _ _ o =>
    rw [Particle.toX, Props.C08.c08_element_member, List.map_cons, leaf_wrapper _ o hp anc (by simp), Ref.flattenParticle]
    rfl
  | .seq o ps =>
    obtain ⟨a1, a2, a3⟩ := anc_particle "sequence" o (particlesToX f ps) anc (by decide) hp.1
    rw [Particle.toX, Props.C08.c08_nested_inline _ _ _ _ _ _ _ (.inl rfl), List.map_append, flatten_particles s f uri ps hp.2,
      a1, a2, a3, Ref.flattenParticle]
    rfl
  | .choice o ps =>
    obtain ⟨a1, a2, a3⟩ := anc_particle "choice" o (particlesToX f ps) anc (by decide) hp.1
    rw [Particle.toX, Props.C08.c08_nested_inline _ _ _ _ _ _ _ (.inr rfl), List.map_append, flatten_particles s f uri ps hp.2,
      a1, a2, a3, Ref.flattenParticle]
    rfl
theorem flatten_particles (s : SchemaSet) (f : SchemaFile) (uri : String) (ps : List Particle) (hp : PartsOk ps) (anc : List XNode) :
    (memberSitesList (particlesToX f ps) anc).map W =
      (Ref.flattenParticles s uri (ancOpt anc) (ancRep anc) (ancCh anc) ps).map (·.wrapper) := by
  match ps with
  | [] => rfl
  | p :: ps =>
    rw [sites_cons, flatten_particle s f uri p hp.1, flatten_particles s f uri ps hp.2 anc, Ref.flattenParticles, List.map_append]
end

end ZeepVerif.Lemmas.Flatten
