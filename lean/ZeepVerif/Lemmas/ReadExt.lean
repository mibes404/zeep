/- The reader on the components of a schema file, in closed form, derivation by extension from a base read before
   included. Everything is proved once, for this fragment (most names in `X`); the fragments without derivation
   (`ReadFile.PlainFile`, `ReadComp.CoveredFile`) are special cases, at the end. `PlainChild.toX`, `Covered.toX` lead into
   this fragment; they are unrelated to `Spec`'s `toX`, the rendering as an XML tree. -/
import ZeepVerif.Lemmas.ReadComp
namespace ZeepVerif.Lemmas.ReadExt
open ZeepVerif.Model ZeepVerif.Lemmas.ReadField ZeepVerif.Lemmas.ReadFile ZeepVerif.Lemmas.ReadComp

theorem findNode_read (ctx : Ctx) (xn : String) (ns : Option Ns) (k : Kind) (fuel : Nat) (d : Doc) (n : RNode)
    (h : lookupRead d xn ns k = some n) :
    runNM (findNodeByXmlName ctx xn ns k (fuel + 1)) d = (.ok (some n), d) := by
  simp only [findNodeByXmlName, runNM_bind, runNM_getDoc, h, runNM_pure]

def isExtension (n : XNode) : Bool := n.isElem && n.tag == "extension"

def baseFieldsOf (bn : RNode) : List Field :=
  match bn.rtype with
  | .complex p => p.fields
  | _ => []

/-- `import_extension_fields`. The first fold appends ALL member sites of `ext` once per `sequence` child:
    `import_sequence_node_fields` is handed the `extension`, not the child (`NodeSteps.seqBlocks`). -/
def extFields (d : Doc) (anc : List XNode) (cc ext : XNode) (bn : RNode) : List Field :=
  let f1 := ext.elemKids.foldl (fun s n =>
    if n.tag == "sequence" then s ++ (memberSites ext (cc :: anc)).map (fun st => plainField d st.1 st.2) else s) (baseFieldsOf bn)
  ext.elemKids.foldl (fun s n => if n.tag == "attribute" then s ++ [plainField d n (ext :: cc :: anc)] else s) f1

/-- the base is among the nodes read (`lookupRead`): `find_node_by_xml_name` does not enter its fallback -/
def PlainExt (d : Doc) (anc : List XNode) (cc ext : XNode) (bn : RNode) : Prop :=
  cc.kids.find? isExtension = some ext ∧
  (∃ baseName, ext.attr? "base" = some baseName ∧
    lookupRead d (resolveType d baseName).1 (resolveType d baseName).2 .type = some bn) ∧
  (∀ st ∈ memberSites ext (cc :: anc), PlainDecl st.1) ∧
  (∀ a ∈ ext.elemKids, a.tag = "attribute" → PlainDecl a)

/-- fuel: 1 `importExtension` + 2 `importSequence_plain` -/
theorem importExtension_plain (cc : XNode) (ctx : Ctx) (fuel : Nat) (d : Doc) (ext : XNode) (bn : RNode)
    (h : PlainExt d ctx.ancestors cc ext bn) :
    runNM (importExtension cc ctx (fuel + 3)) d = (.ok (extFields d ctx.ancestors cc ext bn), d) := by
  obtain ⟨hfind, ⟨baseName, hbase, hlook⟩, hsites, hattrs⟩ := h
  have hfind' : List.find? (fun n => n.isElem && n.tag == "extension") cc.kids = some ext := hfind
  rw [NodeSteps.importExtension_succ]
  simp only [hfind', hbase, liftOpt_some, runNM_bind, runNM_pure, runNM_getDoc, findNode_read ctx _ _ .type (fuel + 1) d bn hlook,
    NodeSteps.seqBlocks, NodeSteps.attrFields]
  rw [foldlM_nm d (fun s n =>
    if n.tag == "sequence" then s ++ (memberSites ext (cc :: ctx.ancestors)).map (fun st => plainField d st.1 st.2) else s)]
  · simp only
    rw [foldlM_nm d (fun s n => if n.tag == "attribute" then s ++ [plainField d n (ext :: cc :: ctx.ancestors)] else s)]
    · rfl
    · intro x hx s
      split
      · rename_i ha
        rw [runNM_map, fieldFromNode_plain x _ (fuel + 1) d (hattrs x hx (by simpa using ha))]
      · rfl
  · intro x hx s
    split
    · exact importSequence_plain ext { ancestors := cc :: ctx.ancestors, allElems := ctx.allElems } s fuel d hsites
    · rfl

def ccFields (d : Doc) (anc : List XNode) (cc : XNode) : Option (List Field) :=
  match cc.kids.find? isExtension with
  | none => none
  | some ext =>
    match ext.attr? "base" with
    | none => none
    | some baseName =>
      match lookupRead d (resolveType d baseName).1 (resolveType d baseName).2 .type with
      | none => none
      | some bn => some (extFields d anc cc ext bn)

/-- `complexStep` and `read_complex_content_node` -/
def complexStepX (d : Doc) (name : String) (anc : List XNode) (r : CProps) (n : XNode) : CProps :=
  if n.tag == "complexContent" then
    match ccFields d anc n with
    | some fs => { xmlName := name, fields := fs, tns := d.current, comment := parseComment n }
    | none => r
  else complexStep d name anc r n

/-- no `sequence` directly under `complexContent`: for each one `read_complex_content_node` reads the members of
    the `complexContent` itself (`seqBlocks` in `NodeSteps.cpxStep`) -/
def PlainChildX (d : Doc) (anc : List XNode) (k : XNode) : Prop :=
  (k.tag = "complexContent" → (∃ ext bn, PlainExt d anc k ext bn) ∧ ∀ c ∈ k.elemKids, c.tag ≠ "sequence") ∧
  (k.tag ≠ "complexContent" → PlainChild anc k)

def complexOfX (d : Doc) (node : XNode) (anc : List XNode) (name : String) : CProps :=
  node.elemKids.foldl (complexStepX d name (node :: anc))
    { xmlName := name, fields := [], tns := d.current, comment := parseComment node }

theorem PlainExt.ccFields {d : Doc} {anc : List XNode} {cc ext : XNode} {bn : RNode} (h : PlainExt d anc cc ext bn) :
    ccFields d anc cc = some (extFields d anc cc ext bn) := by
  obtain ⟨h1, ⟨_, h2, h3⟩, _, _⟩ := h
  simp only [ReadExt.ccFields, h1, h2, h3]

/-- fuel: 1 `complexFromNode` + 2 `importSequence_plain`, or + 3 `importExtension_plain` for a `complexContent` child;
    hence `hf`, so that one statement serves both -/
theorem complexFromNode_gen (node : XNode) (ctx : Ctx) (fuel : Nat) (d : Doc) (name : String)
    (hname : node.attr? "name" = some name ∨
      (node.attr? "name" = none ∧ (ctx.ancestors.head?.bind fun x => x.attr? "name") = some name))
    (h : ∀ k ∈ node.elemKids, PlainChildX (d.collectNamespaces node.nss) (node :: ctx.ancestors) k)
    (hf : fuel = 0 → ∀ k ∈ node.elemKids, k.tag ≠ "complexContent") :
    runNM (complexFromNode node ctx (fuel + 3)) d =
      (.ok (complexOfX (d.collectNamespaces node.nss) node ctx.ancestors name), d.collectNamespaces node.nss) := by
  rw [NodeSteps.complexFromNode_succ]
  have hn : ∀ (o : Option String), o = some name → (liftOpt o Err.attributeMissing : NM String) = pure name :=
    fun _ h => h ▸ rfl
  rw [hn _ (by rcases hname with h1 | ⟨h1, h2⟩ <;> simp only [*])]
  simp only [collectNamespacesOnNode, runNM_bind, runNM_modifyDoc, runNM_pure, runNM_getDoc]
  generalize d.collectNamespaces node.nss = d' at h ⊢
  rw [foldlM_nm d' (complexStepX d' name (node :: ctx.ancestors))]
  · rfl
  intro k hk r
  obtain ⟨hccx, hplain⟩ := h k hk
  simp only [NodeSteps.cpxStep, complexStepX, complexStep, beq_iff_eq]
  by_cases hcc : k.tag = "complexContent"
  · obtain ⟨⟨ext, bn, hext⟩, hnoseq⟩ := hccx hcc
    obtain ⟨fuel, rfl⟩ : ∃ f, fuel = f + 1 := Nat.exists_eq_succ_of_ne_zero fun h0 => hf h0 k hk hcc
    rw [if_pos hcc, if_pos hcc, hext.ccFields, runNM_bind, importExtension_plain k _ fuel d' ext bn hext]
    simp only [runNM_bind, NodeSteps.seqBlocks]
    rw [foldlM_nm d' (fun s _ => s), foldl_keep]
    · rfl
    · intro c hc s
      rw [if_neg (by simpa using hnoseq c hc)]
      rfl
  · obtain ⟨_, hseq, hattr⟩ := hplain hcc
    rw [if_neg hcc, if_neg hcc]
    by_cases hs : k.tag = "sequence"
    · rw [if_pos hs, if_pos hs, runNM_bind, importSequence_plain k _ [] fuel d' (hseq hs)]
      rfl
    · rw [if_neg hs, if_neg hs]
      by_cases ha : k.tag = "attribute"
      · rw [if_pos ha, if_pos ha, runNM_bind, fieldFromNode_plain k _ (fuel + 1) d' (hattr ha)]
        rfl
      · rw [if_neg ha, if_neg ha]
        rfl

theorem complexFromNode_X (node : XNode) (ctx : Ctx) (fuel : Nat) (d : Doc) (name : String)
    (hname : node.attr? "name" = some name ∨
      (node.attr? "name" = none ∧ (ctx.ancestors.head?.bind fun x => x.attr? "name") = some name))
    (hc : d.collectNamespaces node.nss = d)
    (h : ∀ k ∈ node.elemKids, PlainChildX d (node :: ctx.ancestors) k) :
    runNM (complexFromNode node ctx (fuel + 4)) d =
      (.ok (node.elemKids.foldl (complexStepX d name (node :: ctx.ancestors))
          { xmlName := name, fields := [], tns := d.current, comment := parseComment node }), d) := by
  have := complexFromNode_gen node ctx (fuel + 1) d name hname (hc.symm ▸ h) (fun h0 => absurd h0 (Nat.succ_ne_zero _))
  rwa [hc] at this

theorem _root_.ZeepVerif.Lemmas.ReadField.PlainChild.toX {anc : List XNode} {k : XNode} (h : PlainChild anc k) (d : Doc) :
    PlainChildX d anc k := ⟨fun hcc => absurd hcc h.1, fun _ => h⟩

theorem complexOfX_plain (d : Doc) (node : XNode) (anc : List XNode) (name : String)
    (h : ∀ c ∈ node.elemKids, c.tag ≠ "complexContent") : complexOfX d node anc name = complexOf d node anc name :=
  List.foldl_rel (r := Eq) rfl fun k hk r _ e => by
    simp only [← e, complexStepX, beq_eq_false_iff_ne.mpr (h k hk), Bool.false_eq_true, ↓reduceIte]

theorem complexFromNode_plain (node : XNode) (ctx : Ctx) (fuel : Nat) (d : Doc) (name : String)
    (hname : node.attr? "name" = some name ∨
      (node.attr? "name" = none ∧ (ctx.ancestors.head?.bind fun x => x.attr? "name") = some name))
    (h : ∀ k ∈ node.elemKids, PlainChild (node :: ctx.ancestors) k) :
    runNM (complexFromNode node ctx (fuel + 3)) d =
      (.ok (complexOf (d.collectNamespaces node.nss) node ctx.ancestors name), d.collectNamespaces node.nss) := by
  rw [complexFromNode_gen node ctx fuel d name hname (fun k hk => (h k hk).toX _) (fun _ k hk => (h k hk).1),
    complexOfX_plain _ _ _ _ (fun k hk => (h k hk).1)]


/-- `ReadComp.compOf` with `complexOfX` -/
def compOfX (d : Doc) (anc : List XNode) (k : XNode) : Option RNode :=
  if k.tag == "complexType" then
    (k.attr? "name").map fun name => { rtype := .complex (complexOfX d k anc name), inNs := d.current }
  else if k.tag == "simpleType" then
    match k.attr? "name", k.kids.find? isRestriction with
    | some name, some r =>
      (r.attr? "base").map fun base =>
        { rtype := .simple { xmlName := name, rustType := asRustType d base, tns := d.current,
                             restrictions := some (buildRestrictions r), comment := parseComment k },
          inNs := d.current }
    | _, _ => none
  else if k.tag == "element" then
    match k.attr? "name" with
    | none => none
    | some name =>
      match k.attr? "type" with
      | some t => some { rtype := .element { xmlName := name, etype := .rustType (asRustType d t) }, inNs := d.current }
      | none =>
        match k.elemKids.find? (fun n => n.tag == "complexType") with
        | some ct => some { rtype := .element { xmlName := name, etype := .complex (complexOfX d ct (k :: anc) name) }, inNs := d.current }
        | none => some { rtype := .element { xmlName := name, etype := .unsupported }, inNs := d.current }
  else none

/-- `ReadComp.Covered` with `compOfX`, `PlainChildX`; depends on the nodes of `d`, where a base has to be found -/
def CoveredX (d : Doc) (anc : List XNode) (k : XNode) : Prop :=
  k.isElem = true ∧ k.attr? "targetNamespace" = none ∧ (∀ pu ∈ k.nss, Absorbed d pu) ∧ (compOfX d anc k).isSome = true ∧
  (k.tag = "complexType" → ∀ c ∈ k.elemKids, PlainChildX d (k :: anc) c) ∧
  (k.tag = "element" → k.attr? "type" = none → ∀ ct, k.elemKids.find? (fun n => n.tag == "complexType") = some ct →
    ct.attr? "name" = none ∧ (∀ pu ∈ ct.nss, Absorbed d pu) ∧ ∀ c ∈ ct.elemKids, PlainChildX d (ct :: k :: anc) c)

/-- fuel: 1 `tryFromNode` + 1 `elementFromNode` + 4 `complexFromNode_X` -/
theorem tryFromNode_coveredX (k : XNode) (ctx : Ctx) (fuel : Nat) (d : Doc) (n : RNode)
    (h : CoveredX d ctx.ancestors k) (hn : compOfX d ctx.ancestors k = some n) :
    runNM (tryFromNode k ctx (fuel + 6)) d = (.ok n, d) := by
  obtain ⟨he, htns, habs, _, hct, hel⟩ := h
  have hc : d.collectNamespaces k.nss = d := collectNamespaces_again d k.nss habs
  simp only [tryFromNode, he, htns, collectNamespacesOnNode, runNM_bind, runNM_modifyDoc, hc, Bool.not_true,
    Bool.false_eq_true, ↓reduceIte]
  unfold compOfX at hn
  split at hn
  · -- a complex type
    rename_i h1
    obtain ⟨name, hname, rfl⟩ := Option.map_eq_some_iff.mp hn
    have h1 : k.tag = "complexType" := by simpa using h1
    have : runNM (complexFromNode k ctx (fuel + 5)) d = (.ok (complexOfX d k ctx.ancestors name), d) :=
      complexFromNode_X k ctx (fuel + 1) d name (Or.inl hname) hc (hct h1)
    simp only [h1, runNM_bind, runNM_map, this, runNM_getDoc, runNM_pure]
  split at hn
  · -- a simple type by restriction
    rename_i h2
    have h2 : k.tag = "simpleType" := by simpa using h2
    split at hn
    · rename_i name r hname hr
      obtain ⟨base, hb, rfl⟩ := Option.map_eq_some_iff.mp hn
      have hr' : List.find? (fun k => k.isElem && k.tag == "restriction") k.kids = some r := hr
      simp only [h2, runNM_bind, runNM_map, simpleFromNode, collectNamespacesOnNode, runNM_modifyDoc, hc, hname, hr', hb,
        liftOpt_some, runNM_getDoc, runNM_pure]
    · cases hn
  split at hn
  · -- a global element
    rename_i h3
    have h3 : k.tag = "element" := by simpa using h3
    simp only [h3, runNM_bind, runNM_map, elementFromNode, collectNamespacesOnNode, runNM_modifyDoc, hc]
    split at hn
    · cases hn
    rename_i name hname
    simp only [hname, liftOpt_some, runNM_pure, runNM_getDoc]
    split at hn
    · rename_i t ht
      cases hn
      simp only [ht, runNM_pure]
    rename_i ht
    split at hn
    · rename_i ct hf
      cases hn
      obtain ⟨hctn, hctabs, hctk⟩ := hel h3 ht ct hf
      have hcc : d.collectNamespaces ct.nss = d := collectNamespaces_again d ct.nss hctabs
      have : runNM (complexFromNode ct { ancestors := k :: ctx.ancestors, allElems := ctx.allElems } (fuel + 4)) d =
          (.ok (complexOfX d ct (k :: ctx.ancestors) name), d) :=
        complexFromNode_X ct _ fuel d name (Or.inr ⟨hctn, by simp [hname]⟩) hcc hctk
      simp only [ht, hf, runNM_bind, this, runNM_pure]
    · rename_i hf
      cases hn
      simp only [ht, hf, runNM_pure]
  · cases hn


def nodeOfX (d : Doc) (anc : List XNode) (k : XNode) : Option RNode :=
  if k.isElem then compOfX d anc k else none

/-- the nodes after reading `kids`, starting with `acc` already read: each component is read in the document
    that holds the earlier ones (a derived type finds its base there) -/
def nodesFrom (d : Doc) (anc : List XNode) : List XNode → List RNode → List RNode
  | [], acc => acc
  | k :: rest, acc => nodesFrom d anc rest (acc ++ (nodeOfX { d with nodes := acc } anc k).toList)

def CovX (d : Doc) (anc : List XNode) : List XNode → List RNode → Prop
  | [], _ => True
  | k :: rest, acc =>
    (k = .other ∨ CoveredX { d with nodes := acc } anc k) ∧ k.tag ≠ "import" ∧
    CovX d anc rest (acc ++ (nodeOfX { d with nodes := acc } anc k).toList)

theorem xsdStep_X (ctx : Ctx) (d : Doc) (k : XNode) (hk : k = .other ∨ CoveredX d ctx.ancestors k) :
    xsdStep ctx d k = { d with nodes := d.nodes ++ (nodeOfX d ctx.ancestors k).toList } ∧
      (runNM (tryFromNode k ctx nodeFuel) d).1 ≠ .error .outOfFuel := by
  unfold xsdStep
  rcases hk with rfl | hk
  -- `nodeFuel` = 100000
  · rw [show nodeFuel = 99999 + 1 from rfl, tryFromNode_other]
    exact ⟨by simp [nodeOfX, XNode.isElem], nofun⟩
  · obtain ⟨n, hn⟩ := Option.isSome_iff_exists.mp hk.2.2.2.1
    rw [show nodeFuel = 99994 + 6 from rfl, tryFromNode_coveredX k ctx 99994 d n hk hn]
    exact ⟨by simp [nodeOfX, hk.1, hn], nofun⟩

theorem steps_X (files : String → Option XFile) (ctx : Ctx) (F : Nat) (d : Doc) (st : RS) :
    (kids : List XNode) → (acc : List RNode) → CovX d ctx.ancestors kids acc →
    Steps (KidRun files ctx F) ({ d with nodes := acc }, st) kids ({ d with nodes := nodesFrom d ctx.ancestors kids acc }, st)
  | [], _, _ => .nil
  | k :: rest, acc, h =>
    .cons ((xsdStep_X ctx { d with nodes := acc } k h.1).1 ▸ .comp h.2.1 (xsdStep_X ctx _ k h.1).2) (steps_X files ctx F d st rest _ h.2.2)

theorem readXsd_X (files : String → Option XFile) (file : XFile) (allElems : List (XNode × List XNode))
    (schema : XNode) (anc : List XNode) (d : Doc) (fuel : Nat) (st : RS)
    (h : CovX d (schema :: anc) schema.kids d.nodes) :
    (readXsd files file allElems schema anc d (fuel + 1)).run st =
      .ok ({ d with nodes := nodesFrom d (schema :: anc) schema.kids d.nodes }, st) :=
  readXsd_run (steps_X files { ancestors := schema :: anc, allElems := allElems } fuel d st _ _ h)

structure CoveredFileX (xf : XFile) (schema : XNode) (tns : String) : Prop where
  tops : xf.tops = some [schema]
  isElem : schema.isElem = true
  tag : schema.tag = "schema"
  tnsAttr : schema.attr? "targetNamespace" = some tns
  kids : CovX (fileDoc schema tns) [schema] schema.kids (fileDoc schema tns).nodes

/-- `read_xml` on a schema file of complex types (plain or derived by extension from a type declared earlier in the
    file), simple types by restriction and global elements (typed, with an anonymous complex type, or with neither) -/
theorem readXml_covered_fileX (xf : XFile) (schema : XNode) (tns : String) (h : CoveredFileX xf schema tns) :
    readXml [xf] xf.name =
      .ok { fileDoc schema tns with
            nodes := nodesFrom (fileDoc schema tns) [schema] schema.kids (fileDoc schema tns).nodes } :=
  -- 10000 = 9998 + 2 `readXmlInternal_schema`; 9998 = 9997 + 1 `readXsd_X`
  readXml_of_run [xf] xf.name (_, _) <|
    readXmlInternal_schema 9998 (by simp [fileTable]) rfl h.tops h.isElem h.tag h.tnsAttr <|
      readXsd_X _ _ _ schema [] (fileDoc schema tns) 9997 _ h.kids


theorem compOfX_covered (d : Doc) (anc : List XNode) (k : XNode) (h : Covered d anc k) : compOfX d anc k = compOf d anc k := by
  obtain ⟨_, _, _, _, hct, hel⟩ := h
  cases h1 : k.tag == "complexType" with
  | true => simp only [compOfX, compOf, h1, ↓reduceIte, complexOfX_plain d k anc _ fun c hc => (hct (by simpa using h1) c hc).1]
  | false =>
    cases h2 : k.tag == "simpleType" with
    | true =>
      simp only [compOfX, compOf, h1, h2, Bool.false_eq_true, ↓reduceIte]
      cases k.attr? "name" <;> cases k.kids.find? isRestriction <;> rfl
    | false =>
      cases h3 : k.tag == "element" with
      | false => simp only [compOfX, compOf, h1, h2, h3, Bool.false_eq_true, ↓reduceIte]
      | true =>
        cases hname : k.attr? "name" with
        | none => simp only [compOfX, compOf, h1, h2, h3, hname, Bool.false_eq_true, ↓reduceIte]
        | some name =>
          cases ht : k.attr? "type" with
          | some t => simp only [compOfX, compOf, h1, h2, h3, hname, ht, Bool.false_eq_true, ↓reduceIte]
          | none =>
            cases hf : k.elemKids.find? (fun n => n.tag == "complexType") with
            | none => simp only [compOfX, compOf, h1, h2, h3, hname, ht, hf, Bool.false_eq_true, ↓reduceIte]
            | some ct =>
              simp only [compOfX, compOf, h1, h2, h3, hname, ht, hf, Bool.false_eq_true, ↓reduceIte,
                complexOfX_plain d ct (k :: anc) name fun c hc => ((hel (by simpa using h3) ht ct hf).2.2 c hc).1]

theorem _root_.ZeepVerif.Lemmas.ReadComp.Covered.toX {d : Doc} {anc : List XNode} {k : XNode} (h : Covered d anc k) :
    CoveredX d anc k :=
  ⟨h.1, h.2.1, h.2.2.1, compOfX_covered d anc k h ▸ h.2.2.2.1, fun ht c hc => (h.2.2.2.2.1 ht c hc).toX d,
    fun ht hty ct hf => ⟨(h.2.2.2.2.2 ht hty ct hf).1, (h.2.2.2.2.2 ht hty ct hf).2.1,
      fun c hc => ((h.2.2.2.2.2 ht hty ct hf).2.2 c hc).toX d⟩⟩

theorem covered_nodes (d : Doc) (ns : List RNode) (anc : List XNode) (k : XNode) (h : Covered d anc k) :
    Covered { d with nodes := ns } anc k := by
  simpa only [Covered, compOf_nodes, absorbed_nodes] using h

/-- covered components do not look at the nodes read so far; `f`: `nodeOfC` or what agrees with it on these children -/
theorem covX_of_covered (d : Doc) (anc : List XNode) (f : XNode → Option RNode) : (kids : List XNode) → (acc : List RNode) →
    (∀ k ∈ kids, (k = .other ∨ Covered d anc k) ∧ k.tag ≠ "import" ∧ nodeOfC d anc k = f k) →
    CovX d anc kids acc ∧ nodesFrom d anc kids acc = acc ++ kids.filterMap f
  | [], acc, _ => ⟨trivial, by simp [nodesFrom]⟩
  | k :: rest, acc, h => by
    obtain ⟨hk, hni, hf⟩ := h k List.mem_cons_self
    have hk : k = .other ∨ Covered { d with nodes := acc } anc k := hk.imp_right (covered_nodes d acc anc k)
    have hnode : nodeOfX { d with nodes := acc } anc k = f k := by
      rw [← hf]
      rcases hk with rfl | hk
      · rfl
      · simp only [nodeOfX, nodeOfC, compOfX_covered _ anc k hk, compOf_nodes]
    obtain ⟨ih1, ih2⟩ := covX_of_covered d anc f rest (acc ++ (f k).toList) (fun x hx => h x (List.mem_cons_of_mem _ hx))
    refine ⟨⟨hk.imp_right Covered.toX, hni, hnode ▸ ih1⟩, ?_⟩
    rw [nodesFrom, hnode, ih2]
    cases hq : f k <;> simp [hq]

end ZeepVerif.Lemmas.ReadExt

namespace ZeepVerif.Lemmas.ReadComp
open ZeepVerif.Model ZeepVerif.Lemmas.ReadField ZeepVerif.Lemmas.ReadFile ZeepVerif.Lemmas.ReadExt

theorem readXml_covered_file (xf : XFile) (schema : XNode) (tns : String) (h : CoveredFile xf schema tns) :
    readXml [xf] xf.name =
      .ok { fileDoc schema tns with
            nodes := (fileDoc schema tns).nodes ++ schema.kids.filterMap (nodeOfC (fileDoc schema tns) [schema]) } := by
  obtain ⟨hc, hn⟩ := covX_of_covered (fileDoc schema tns) [schema] _ schema.kids (fileDoc schema tns).nodes
    fun k hk => ⟨h.kids k hk, h.noImport k hk, rfl⟩
  rw [readXml_covered_fileX xf schema tns ⟨h.tops, h.isElem, h.tag, h.tnsAttr, hc⟩, hn]

end ZeepVerif.Lemmas.ReadComp

namespace ZeepVerif.Lemmas.ReadFile
open ZeepVerif.Model ZeepVerif.Lemmas.ReadField ZeepVerif.Lemmas.ReadComp ZeepVerif.Lemmas.ReadExt

theorem readXml_plain_file (xf : XFile) (schema : XNode) (tns : String) (h : PlainFile xf schema tns) :
    readXml [xf] xf.name =
      .ok { fileDoc schema tns with
            nodes := (fileDoc schema tns).nodes ++ schema.kids.filterMap (nodeOf (fileDoc schema tns) [schema]) } := by
  obtain ⟨hc, hn⟩ := covX_of_covered (fileDoc schema tns) [schema] (nodeOf (fileDoc schema tns) [schema]) schema.kids
      (fileDoc schema tns).nodes <| by
    intro k hk
    rcases h.kids k hk with rfl | ⟨name, he, ht, htn, hname, hch, hns⟩
    · exact ⟨.inl rfl, by decide, rfl⟩
    · have hcomp : compOf (fileDoc schema tns) [schema] k = nodeOf (fileDoc schema tns) [schema] k := by
        simp [compOf, nodeOf, ht, hname, he]
      refine ⟨.inr ⟨he, htn, fun pu hpu => fileDoc_absorbs {} schema.nss tns pu (hns pu hpu),
        by simp [hcomp, nodeOf, he], fun _ => hch, fun h' => by simp [ht] at h'⟩, by simp [ht], by simp [nodeOfC, he, hcomp]⟩
  rw [readXml_covered_fileX xf schema tns ⟨h.tops, h.isElem, h.tag, h.tnsAttr, hc⟩, hn]

end ZeepVerif.Lemmas.ReadFile
