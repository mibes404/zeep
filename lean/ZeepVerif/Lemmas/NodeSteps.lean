/-
The loops of the node-level reader (`import_sequence_node_fields`, `import_extension_fields`, `ComplexProps::try_from_node`)
as folds; proofs go through these equations instead of unfolding the `do` blocks. The last tests the child's tag three times
in a row; the tags exclude one another, so `cpxStep` is a chain of alternatives.
-/
import ZeepVerif.Lemmas.FileSteps

namespace ZeepVerif.Lemmas.NodeSteps
open ZeepVerif.Model ZeepVerif.Lemmas.FileSteps

/-- for each `sequence` child the members of `parent` once more: `import_sequence_node_fields` is handed the parent, not the child -/
def seqBlocks (parent : XNode) (ctx : Ctx) (fuel : Nat) (kids : List XNode) (fields : List Field) : NM (List Field) :=
  kids.foldlM (fun fields k => if k.tag == "sequence" then importSequence parent ctx fields fuel else pure fields) fields

def attrFields (ctx : Ctx) (fuel : Nat) (kids : List XNode) (fields : List Field) : NM (List Field) :=
  kids.foldlM (fun fields n => if n.tag == "attribute" then (fields ++ [·]) <$> fieldFromNode n ctx fuel else pure fields) fields

theorem seqBlocks_forIn (parent : XNode) (ctx : Ctx) (fuel : Nat) (kids : List XNode) (fields : List Field) :
    (forIn kids fields fun k s =>
      if (k.tag == "sequence") = true then do
        let fields ← importSequence parent ctx s fuel
        pure (ForInStep.yield fields)
      else pure (ForInStep.yield s)) = seqBlocks parent ctx fuel kids fields :=
  forIn_eq_foldlM _ _ _ (fun k s => by split <;> simp_all) fields

theorem attrFields_forIn (ctx : Ctx) (fuel : Nat) (kids : List XNode) (fields : List Field) :
    (forIn kids fields fun n s =>
      if (n.tag == "attribute") = true then do
        let f ← fieldFromNode n ctx fuel
        pure (ForInStep.yield (s ++ [f]))
      else pure (ForInStep.yield s)) = attrFields ctx fuel kids fields :=
  forIn_eq_foldlM _ _ _ (fun k s => by split <;> simp_all) fields

theorem importSequence_succ (node : XNode) (ctx : Ctx) (acc : List Field) (fuel : Nat) :
    importSequence node ctx acc (fuel + 1) = (memberSites node ctx.ancestors).foldlM
      (fun acc site => (acc ++ [·]) <$> fieldFromNode site.1 { ctx with ancestors := site.2 } fuel) acc := by
  rw [importSequence]
  refine (bind_pure _).trans (forIn_eq_foldlM _ _ _ (fun site acc => ?_) acc)
  simp

theorem importExtension_succ (node : XNode) (ctx : Ctx) (fuel : Nat) :
    importExtension node ctx (fuel + 1) =
      (match node.kids.find? (fun n => n.isElem && n.tag == "extension") with
      | none => pure []
      | some base => do
        let baseName ← liftOpt (base.attr? "base") .attributeMissing
        let d ← getDoc
        let baseNode ← findNodeByXmlName ctx (resolveType d baseName).1 (resolveType d baseName).2 .type fuel
        let baseNode ← liftOpt baseNode .nodeNotFound
        let fields ← seqBlocks base { ctx with ancestors := node :: ctx.ancestors } fuel base.elemKids
          (match baseNode.rtype with
            | .complex p => p.fields
            | _ => [])
        attrFields { ctx with ancestors := base :: node :: ctx.ancestors } fuel base.elemKids fields) := by
  rw [importExtension]
  cases node.kids.find? (fun n => n.isElem && n.tag == "extension") with
  | none => rfl
  | some base =>
    refine bind_congr fun _ => bind_congr fun d => bind_congr fun _ => bind_congr fun bn => ?_
    dsimp only
    rw [seqBlocks_forIn]
    exact bind_congr fun fields => (bind_pure _).trans (attrFields_forIn ..)

/-- `read_complex_content_node`, `read_sequence_node`, an attribute, or nothing -/
def cpxStep (name : String) (ctxN : Ctx) (fuel : Nat) (result : CProps) (n : XNode) : NM CProps :=
  if n.tag = "complexContent" then do
    let fields ← importExtension n ctxN fuel
    let fields ← seqBlocks n ctxN fuel n.elemKids fields
    let d ← getDoc
    pure { xmlName := name, fields := fields, tns := d.current, comment := parseComment n }
  else if n.tag = "sequence" then do
    let fields ← importSequence n ctxN [] fuel
    let d ← getDoc
    pure { xmlName := name, fields := fields, tns := d.current, comment := parseComment n }
  else if n.tag = "attribute" then do
    let f ← fieldFromNode n ctxN fuel
    pure { result with fields := result.fields ++ [f] }
  else pure result

theorem complexFromNode_succ (node : XNode) (ctx : Ctx) (fuel : Nat) :
    complexFromNode node ctx (fuel + 1) = (do
      collectNamespacesOnNode node
      let name ← liftOpt (match node.attr? "name" with
        | some n => some n
        | none => (ctx.ancestors.head?).bind (·.attr? "name")) .attributeMissing
      let d ← getDoc
      node.elemKids.foldlM (cpxStep name { ctx with ancestors := node :: ctx.ancestors } fuel)
        { xmlName := name, fields := [], tns := d.current, comment := parseComment node }) := by
  rw [complexFromNode]
  refine bind_congr fun _ => bind_congr fun name => bind_congr fun d => ?_
  refine (bind_pure _).trans ?_
  apply forIn_eq_foldlM
  intro n r
  -- as in `FileSteps.readTop_succ`: the join points stay let-variables, one case per tag
  extract_lets r0 jpA cm jpS
  unfold cpxStep
  rw [show r = r0 from rfl]
  -- the inner loop of `read_complex_content_node`, in the form `simp` leaves it in
  have hin : ∀ fields, (forIn n.elemKids fields fun k s =>
      if k.tag = "sequence" then
        ForInStep.yield <$> importSequence n { ancestors := node :: ctx.ancestors, allElems := ctx.allElems } s fuel
      else pure (ForInStep.yield s)) = seqBlocks n { ancestors := node :: ctx.ancestors, allElems := ctx.allElems } fuel n.elemKids fields :=
    fun fields => forIn_eq_foldlM _ _ _ (fun k s => by split <;> simp_all) fields
  by_cases h1 : n.tag = "complexContent"
  · simp [h1, hin, jpS, jpA, cm]
  by_cases h2 : n.tag = "sequence"
  · simp [h2, jpS, jpA, cm]
  by_cases h3 : n.tag = "attribute"
  · simp [h3, jpS, jpA]
  simp [h1, h2, h3, jpS, jpA]

end ZeepVerif.Lemmas.NodeSteps
