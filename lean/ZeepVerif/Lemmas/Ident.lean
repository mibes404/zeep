/-
Identifier lemmas for C14: for ASCII names the snake_case / PascalCase functions produce only identifier
characters and start with a letter of the right case or a digit.
-/
import ZeepVerif.RustLex

namespace ZeepVerif.Lemmas.Ident
open ZeepVerif.Inflector ZeepVerif.RustLex

def Ascii (cs : List Char) : Prop := ∀ c ∈ cs, c.toNat < 128

theorem ascii_alnum (c : Char) (hc : c.toNat < 128) (h : isAlnum c = true) :
    (isDigitA c = true ∧ toLowerA c = c) ∨
    (isDigitA c = false ∧ isUpperA (toUpperA c) = true ∧ isLowerA (toLowerA c) = true) := by
  have table : ∀ n : Fin 128,
      (let c := Char.ofNat n.val
       !isAlnum c || (isDigitA c && toLowerA c == c) ||
        (!isDigitA c && isUpperA (toUpperA c) && isLowerA (toLowerA c))) = true := by decide +kernel
  simpa [h, and_assoc] using table ⟨c.toNat, hc⟩

theorem cont_of_lower {c : Char} (h : isLowerA c = true) : isIdentCont c = true := by simp [isIdentCont, isIdentStart, h]
theorem cont_of_upper {c : Char} (h : isUpperA c = true) : isIdentCont c = true := by simp [isIdentCont, isIdentStart, h]
theorem cont_of_digit {c : Char} (h : isDigitA c = true) : isIdentCont c = true := by simp [isIdentCont, h]

/-- The invariant of both conversions. Both accumulate the output reversed: the last element of `out` is the first
    character of the word; `fresh` is the state's flag that no word has been begun. -/
structure WInv (first : Char → Bool) (out : List Char) (fresh : Bool) : Prop where
  chars : ∀ x ∈ out, isIdentCont x = true
  first : ∀ c, out.getLast? = some c → first c = true
  nonempty : fresh = false → out ≠ []

theorem WInv.push {first : Char → Bool} {out : List Char} {fresh : Bool} {c : Char} (h : WInv first out fresh)
    (hc : isIdentCont c = true) (hf : out = [] → first c = true) (b : Bool) : WInv first (c :: out) b := by
  refine ⟨List.forall_mem_cons.mpr ⟨hc, h.chars⟩, fun x hx => ?_, fun _ => by simp⟩
  cases out with
  | nil => simp at hx; exact hx ▸ hf rfl
  | cons b t => exact h.first x (by simpa [List.getLast?_cons_cons] using hx)

theorem WInv.fresh {first : Char → Bool} {out : List Char} {b : Bool} (h : WInv first out b) : WInv first out true :=
  ⟨h.chars, h.first, fun hn => by simp at hn⟩

theorem WInv.more {first : Char → Bool} {out : List Char} {fresh : Bool} {c : Char} (h : WInv first out fresh)
    (hfr : fresh = false) (hc : isIdentCont c = true) (b : Bool) : WInv first (c :: out) b :=
  h.push hc (fun e => absurd e (h.nonempty hfr)) b

abbrev SInv (st : SState) : Prop := WInv (fun c => isLowerA c || isDigitA c) st.out st.first

theorem snakeStep_inv (orig : Array Char) (st : SState) (c : Char) (hc : c.toNat < 128) (h : SInv st) :
    SInv (snakeStep orig st c) := by
  unfold snakeStep
  simp only
  split
  · split
    · next hf => exact h.more (by simpa using hf) (by decide) true
    · exact h
  · next hs =>
    have hl : (isLowerA (toLowerA c) || isDigitA (toLowerA c)) = true := by
      rcases ascii_alnum c hc (by simpa [isSep] using hs) with ⟨hd, e⟩ | ⟨_, _, hl⟩
      · simp [e, hd]
      · simp [hl]
    have hl' : isIdentCont (toLowerA c) = true := (Bool.or_eq_true _ _ ▸ hl).elim cont_of_lower cont_of_digit
    split
    · next hcond =>
      have hfirst : st.first = false := by
        simp only [Bool.and_eq_true, Bool.not_eq_true'] at hcond
        exact hcond.1.1
      exact (h.more hfirst (by decide) false).more rfl hl' false
    · exact h.push hl' (fun _ => hl) false

theorem trimRight_ascii (cs : List Char) (h : Ascii cs) : Ascii (trimRight cs) := fun c hc =>
  h c (List.mem_reverse.1 ((List.dropWhile_sublist _).subset (List.mem_reverse.1 hc)))

theorem foldl_inv {σ : Type} {P : σ → Prop} {f : σ → Char → σ} (hf : ∀ st c, c.toNat < 128 → P st → P (f st c))
    (l : List Char) (hl : Ascii l) (st : σ) (h : P st) : P (l.foldl f st) :=
  List.foldlRecOn (motive := P) l f h fun st hst c hc => hf st c (hl c hc) hst

theorem snake_chars (n : String) (h : Ascii n.toList) :
    (toSnakeCase n).toList.all isIdentCont = true ∧
    (∀ c, (toSnakeCase n).toList.head? = some c → (isLowerA c || isDigitA c) = true) := by
  have inv : SInv _ := foldl_inv (snakeStep_inv n.toList.toArray) (trimRight n.toList) (trimRight_ascii _ h) {}
    ⟨by simp, by simp, by simp⟩
  unfold toSnakeCase
  simp only [String.toList_ofList, List.head?_reverse, List.all_reverse]
  exact ⟨List.all_eq_true.2 inv.chars, inv.first⟩

abbrev PInv (st : PState) : Prop := WInv (fun c => isUpperA c || isDigitA c) st.out st.newWord

theorem pascalStep_inv (st : PState) (c : Char) (hc : c.toNat < 128) (h : PInv st) : PInv (pascalStep st c) := by
  unfold pascalStep
  by_cases hs : isSep c = true
  · by_cases hfd : st.found = true
    · rw [if_pos (by simp [hs, hfd])]
      exact h.fresh
    · rw [if_neg (by simp [hfd]), if_pos (by simp [hs, hfd])]
      exact h
  rw [if_neg (by simp [hs]), if_neg (by simp [hs])]
  by_cases hd : isDigitA c = true
  · rw [if_pos hd]
    exact h.push (cont_of_digit hd) (fun _ => by simp [hd]) true
  rw [if_neg hd]
  obtain ⟨_, hu, hl⟩ := (ascii_alnum c hc (by simpa [isSep] using hs)).resolve_left fun h => hd h.1
  split
  · exact h.push (cont_of_upper hu) (fun _ => by simp [hu]) false
  · next hnw =>
    have hnw' : st.newWord = false := by
      simp only [Bool.or_eq_true, not_or, Bool.not_eq_true] at hnw
      exact hnw.1
    exact h.more hnw' (cont_of_lower hl) _

theorem pascal_chars (n : String) (h : Ascii n.toList) :
    (toPascalCase n).toList.all isIdentCont = true ∧
    (∀ c, (toPascalCase n).toList.head? = some c → (isUpperA c || isDigitA c) = true) := by
  have inv : PInv _ := foldl_inv pascalStep_inv (trimRight n.toList) (trimRight_ascii _ h) {} ⟨by simp, by simp, by simp⟩
  unfold toPascalCase
  simp only [String.toList_ofList, List.head?_reverse, List.all_reverse]
  exact ⟨List.all_eq_true.2 inv.chars, inv.first⟩

end ZeepVerif.Lemmas.Ident
