/- `runNM` of each primitive of the node monad (one `simp only` set); what the reader makes of a plain member declaration
   and of a content model, in any document state and without changing it; the loop body of a complex type (`complexStep`,
   `PlainChild`). -/
import ZeepVerif.Model.Reader
import ZeepVerif.Lemmas.NodeSteps

namespace ZeepVerif.Lemmas.ReadField
open ZeepVerif.Model

theorem runNM_pure {α : Type} (a : α) (d : Doc) : runNM (pure a : NM α) d = (.ok a, d) := rfl

theorem runNM_bind {α β : Type} (x : NM α) (k : α → NM β) (d : Doc) :
    runNM (x >>= k) d = (match runNM x d with
      | (.ok a, d') => runNM (k a) d'
      | (.error e, d') => (.error e, d')) := by
  simp only [runNM, bind, ExceptT.bind, ExceptT.mk, ExceptT.run, StateT.bind, StateT.run]
  cases x d with
  | mk r d' => cases r <;> simp [ExceptT.bindCont, pure, StateT.pure]

theorem runNM_map {α β : Type} (f : α → β) (x : NM α) (d : Doc) :
    runNM (f <$> x) d = (match runNM x d with
      | (.ok a, d') => (.ok (f a), d')
      | (.error e, d') => (.error e, d')) := by
  rw [← bind_pure_comp, runNM_bind]; rfl

theorem runNM_getDoc (d : Doc) : runNM getDoc d = (.ok d, d) := rfl

theorem runNM_throw {α : Type} (e : Err) (d : Doc) : runNM (throw e : NM α) d = (.error e, d) := rfl

theorem runNM_modifyDoc (f : Doc → Doc) (d : Doc) : runNM (modifyDoc f) d = (.ok (), f d) := rfl

theorem runNM_liftOpt {α : Type} (o : Option α) (e : Err) (d : Doc) :
    runNM (liftOpt o e) d = (match o with | some a => .ok a | none => .error e, d) := by
  cases o <;> rfl

theorem liftOpt_some {α : Type} (a : α) (e : Err) : liftOpt (some a) e = pure a := rfl

/-- Covers only readers that leave the document alone. The fallback of `find_node_by_xml_name` (a `ref=` on a group or
    attribute, a base declared later) does not; it needs a fold that threads the document, like `ReadFile.foldlM_steps`. -/
theorem foldlM_nm {α β : Type} (d : Doc) (g : β → α → β) (step : β → α → NM β) :
    (l : List α) → (init : β) → (∀ x ∈ l, ∀ s, runNM (step s x) d = (.ok (g s x), d)) →
    runNM (l.foldlM step init) d = (.ok (l.foldl g init), d)
  | [], init, _ => rfl
  | x :: rest, init, h => by
    rw [List.foldlM_cons, runNM_bind, h x List.mem_cons_self init]
    exact foldlM_nm d g step rest (g init x) (fun y hy => h y (List.mem_cons_of_mem _ hy))

theorem foldl_snoc {α β : Type} (F : α → β) (l : List α) (acc : List β) :
    l.foldl (fun s x => s ++ [F x]) acc = acc ++ l.map F := by
  rw [List.foldl_append_eq_append, ← List.flatMap_def, ← List.map_eq_flatMap]

theorem foldl_keep {α β : Type} (l : List α) (b : β) : l.foldl (fun s _ => s) b = b := by
  induction l <;> simp [*]

/-- `Field::try_from_node` on a declaration with a name and (maybe) a type -/
def plainField (d : Doc) (node : XNode) (anc : List XNode) : Field :=
  let occ := occurrence node anc
  { xmlName := (node.attr? "name").getD "", rustName := asFieldName ((node.attr? "name").getD ""),
    rustType := (match node.attr? "type" with | some t => asRustType d t | none => .string),
    isOptional := occ.isOptional, isVec := occ.isVec, tns := d.current, isAttribute := occ.isAttribute,
    isChoice := occ.isChoice, isAny := false }

def PlainDecl (node : XNode) : Prop :=
  node.isElem = true ∧ node.tag ≠ "any" ∧ (node.attr? "name").isSome ∧ node.attr? "ref" = none ∧
  node.attr? "targetNamespace" = none

theorem fieldFromNode_plain (node : XNode) (ctx : Ctx) (fuel : Nat) (d : Doc) (h : PlainDecl node) :
    runNM (fieldFromNode node ctx (fuel + 1)) d = (.ok (plainField d node ctx.ancestors), d) := by
  obtain ⟨he, htag, hname, href, htns⟩ := h
  obtain ⟨n, hn⟩ := Option.isSome_iff_exists.mp hname
  have htag' : (node.tag == "any") = false := by simpa using htag
  simp only [fieldFromNode, he, htns, href, hn, htag', liftOpt_some, runNM_bind, runNM_getDoc, runNM_pure, plainField,
    Bool.not_true, Bool.false_eq_true, ↓reduceIte, Option.getD_some]
  rfl

/-- fuel: 1 `importSequence` + 1 `fieldFromNode` -/
theorem importSequence_plain (node : XNode) (ctx : Ctx) (acc : List Field) (fuel : Nat) (d : Doc)
    (h : ∀ s ∈ memberSites node ctx.ancestors, PlainDecl s.1) :
    runNM (importSequence node ctx acc (fuel + 2)) d =
      (.ok (acc ++ (memberSites node ctx.ancestors).map (fun s => plainField d s.1 s.2)), d) := by
  rw [NodeSteps.importSequence_succ, foldlM_nm d (fun acc s => acc ++ [plainField d s.1 s.2]), foldl_snoc]
  intro s hs acc
  rw [runNM_map, fieldFromNode_plain s.1 _ fuel d (h s hs)]

/-! used in `ReadExt.complexFromNode_plain` -/

/-- the loop body of `ComplexProps::try_from_node`, `complexContent` apart; a `sequence` replaces the result
    (`read_sequence_node`): attributes read before it are lost -/
def complexStep (d : Doc) (name : String) (anc : List XNode) (r : CProps) (n : XNode) : CProps :=
  if n.tag == "sequence" then
    { xmlName := name, fields := (memberSites n anc).map (fun s => plainField d s.1 s.2), tns := d.current,
      comment := parseComment n }
  else if n.tag == "attribute" then { r with fields := r.fields ++ [plainField d n anc] }
  else r

def PlainChild (anc : List XNode) (k : XNode) : Prop :=
  k.tag ≠ "complexContent" ∧ (k.tag = "sequence" → ∀ s ∈ memberSites k anc, PlainDecl s.1) ∧
  (k.tag = "attribute" → PlainDecl k)

end ZeepVerif.Lemmas.ReadField
