/-
The file-level reader (`read_xml_internal`, `read`/`read_wsdl`, `read_xsd`) with its loop bodies named: the loop of each function is
a fold of a small step function (the `_succ` equations), and proofs go through these instead of unfolding the `do` blocks.
The folded functions take the document before the child, as `List.foldlM` wants it; their pieces take it last, so that they
are a `Doc → FM Doc` (`KeepsFile.Step`). `forIn_eq_foldlM` is the lemma a new loop needs.
-/
import ZeepVerif.Model.Reader

namespace ZeepVerif.Lemmas.FileSteps
open ZeepVerif.Model ZeepVerif.Generated

/-- the four SOAP arms of the loop of `readTop`; unlike in `compStep`, every error ends the file -/
def nodeStep {α : Type} (x : NM α) (push : Doc → α → Doc) (d : Doc) : FM Doc :=
  match runNM x d with
  | (.ok a, d') => pure (push d' a)
  | (.error e, _) => throw e

/-- `process_import` -/
def importStep (files : String → Option XFile) (fuel : Nat) (child : XNode) (d : Doc) : FM Doc :=
  match child.attr? "namespace" with
  | none => throw Err.namespaceMissing
  | some ns =>
    if Tables.wellKnownNamespaces.contains ns then pure d else
    match child.attr? "schemaLocation" with
    | none => pure d
    | some loc =>
      match files loc with
      | none => throw Err.importNotFound
      | some _ => do
        if (← get).processed.contains loc then pure d else
          return d.extend (← readXmlInternal files loc d.namespaces (d.knownNodes ++ d.nodes) fuel)

/-- a failed reading is dropped; only `outOfFuel` ends the file -/
def compStep (ctx : Ctx) (child : XNode) (d : Doc) : FM Doc :=
  match runNM (tryFromNode child ctx nodeFuel) d with
  | (.ok n, d') => pure { d' with nodes := d'.nodes ++ [n] }
  | (.error e, d') => if e == Err.outOfFuel then throw e else pure d'

def xsdStep (files : String → Option XFile) (all : List (XNode × List XNode)) (schema : XNode) (anc : List XNode) (fuel : Nat)
    (d : Doc) (child : XNode) : FM Doc :=
  if child.tag == "import" then importStep files fuel child d
  else compStep { ancestors := schema :: anc, allElems := all } child d

def typesStep (files : String → Option XFile) (file : XFile) (all : List (XNode × List XNode)) (node : XNode) (fuel : Nat)
    (child : XNode) (d : Doc) : FM Doc :=
  match child.kids.find? (fun n => n.tag == "schema") with
  | none => throw Err.schemaNotFound
  | some schema => readXsd files file all schema [child, node] d fuel

/-- `readTop` tests the tag five times in a row; the tags exclude one another, so this chain is the same -/
def defsStep (files : String → Option XFile) (file : XFile) (all : List (XNode × List XNode)) (node : XNode) (fuel : Nat)
    (d : Doc) (child : XNode) : FM Doc :=
  let ctx : Ctx := { ancestors := [node], allElems := all }
  if child.tag = "types" then typesStep files file all node fuel child d
  else if child.tag = "message" then
    nodeStep (messageFromNode child ctx nodeFuel) (fun d m => { d with messages := d.messages ++ [m] }) d
  else if child.tag = "portType" then nodeStep (portFromNode child) (fun d p => { d with ports := d.ports ++ [p] }) d
  else if child.tag = "binding" then
    nodeStep (bindingFromNode child file.urls) (fun d b => { d with bindings := d.bindings ++ [b] }) d
  else if child.tag = "service" then
    nodeStep (serviceFromNode child file.urls) (fun d s => { d with services := d.services ++ [s] }) d
  else pure d

theorem throw_bind {α β} (e : Err) (f : α → FM β) : (throw e : FM α) >>= f = throw e := rfl
theorem map_throw {α β} (e : Err) (f : α → β) : f <$> (throw e : FM α) = throw e := rfl

theorem forIn_eq_foldlM {m : Type → Type} [Monad m] [LawfulMonad m] {α β : Type} (l : List α) (f : α → β → m (ForInStep β))
    (g : β → α → m β) (h : ∀ a b, f a b = ForInStep.yield <$> g b a) (b : β) : forIn l b f = l.foldlM g b := by
  have : f = fun a b => (fun b' => ForInStep.yield (id b')) <$> g b a := by funext a b; exact h a b
  rw [this, List.forIn_yield_eq_foldlM]
  simp

theorem readXsd_succ (files file all schema anc d fuel) :
    readXsd files file all schema anc d (fuel + 1) = schema.kids.foldlM (xsdStep files all schema anc fuel) d := by
  rw [readXsd]
  refine (bind_pure _).trans ?_
  apply forIn_eq_foldlM
  intro child s
  simp only [xsdStep, importStep, compStep]
  split
  · cases child.attr? "namespace" with
    | none => simp [throw_bind, map_throw]
    | some ns =>
      simp only [pure_bind]
      split
      · simp
      · cases child.attr? "schemaLocation" with
        | none => simp
        | some loc =>
          simp only
          cases files loc with
          | none => simp [throw_bind, map_throw]
          | some v =>
            simp only [map_bind]
            congr 1; funext st
            split <;> simp
  · generalize runNM (tryFromNode child _ nodeFuel) s = p
    obtain ⟨r, d'⟩ := p
    cases r with
    | ok n => simp
    | error e => simp only; split <;> simp [map_throw]

theorem readTop_succ (files file all node d fuel) :
    readTop files file all node d (fuel + 1) =
      if !node.isElem then pure d else
      let d := match node.attr? "targetNamespace" with
        | some tns => d.switchToTargetNamespace tns
        | none => d
      if node.tag = "schema" then readXsd files file all node [] d fuel
      else if node.tag = "definitions" then node.kids.foldlM (defsStep files file all node fuel) d
      else pure d := by
  rw [readTop]
  congr 1
  show (match node.tag with | "schema" => _ | "definitions" => _ | _ => _) = (if _ then _ else if _ then _ else _)
  split
  · rename_i h; rw [if_pos h]; rfl
  · rename_i h
    rw [if_neg (by rw [h]; decide), if_pos h]
    refine (bind_pure _).trans ?_
    apply forIn_eq_foldlM
    intro child s
    -- the five `if t == "…"` are chained through join points (`jpM` … `jpS`); for one tag the literal comparisons leave one stage
    extract_lets d0 t jpS jpB jpP jpM
    unfold defsStep typesStep nodeStep
    rw [show child.tag = t from rfl, show s = d0 from rfl]
    by_cases h1 : t = "types"
    · cases child.kids.find? (fun n => n.tag == "schema") <;> simp [h1, jpM, jpP, jpB, jpS, map_throw]
    by_cases h2 : t = "message"
    · rcases hr : runNM (messageFromNode child { ancestors := [node], allElems := all } nodeFuel) d0 with ⟨_ | _, d'⟩ <;>
        simp [h2, hr, jpM, jpP, jpB, jpS, map_throw]
    by_cases h3 : t = "portType"
    · rcases hr : runNM (portFromNode child) d0 with ⟨_ | _, d'⟩ <;> simp [h3, hr, jpM, jpP, jpB, jpS, map_throw]
    by_cases h4 : t = "binding"
    · rcases hr : runNM (bindingFromNode child file.urls) d0 with ⟨_ | _, d'⟩ <;> simp [h4, hr, jpM, jpP, jpB, jpS, map_throw]
    by_cases h5 : t = "service"
    · rcases hr : runNM (serviceFromNode child file.urls) d0 with ⟨_ | _, d'⟩ <;> simp [h5, hr, jpM, jpP, jpB, jpS, map_throw]
    simp [h1, h2, h3, h4, h5, jpM, jpP, jpB, jpS]
  · rename_i h1 h2; rw [if_neg h1, if_neg h2]; rfl

/-- what `init_with_known_namespaces` returns -/
def rootDoc (tops : List XNode) (known : List Ns) (kn : List RNode) : Doc :=
  match tops.find? (·.isElem) with
  | some root => ({ namespaces := known, knownNodes := kn } : Doc).collectNamespaces root.nss
  | none => { namespaces := known, knownNodes := kn }

theorem readXmlInternal_succ (files name known kn fuel) :
    readXmlInternal files name known kn (fuel + 1) =
      (match files name with
      | none => throw Err.importNotFound
      | some file => get >>= fun st =>
        if st.processed.contains name then pure {} else
          match file.tops with
          | none => throw Err.message
          | some tops => do
            modify fun s => { s with processed := name :: s.processed }
            tops.foldlM (fun d child => readTop files file (allElemsOf tops []) child d fuel) (rootDoc tops known kn)) := by
  rw [readXmlInternal]
  cases files name with
  | none => rfl
  | some file =>
    simp only
    congr 1; funext st
    split
    · rfl
    · cases file.tops with
      | none => rfl
      | some tops =>
        simp only
        congr 1; funext _
        exact (bind_pure _).trans (forIn_eq_foldlM _ _ _ (fun _ _ => (map_eq_pure_bind _ _).symm) _)

end ZeepVerif.Lemmas.FileSteps
