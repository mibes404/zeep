/- Any import graph: a pure reader for file sets whose files consist of covered components and imports of registered
   files (to any depth, with diamonds, self imports and cycles), and the theorem that the monadic reader model
   returns what the pure reader returns whenever that succeeds.
   This is the general form; `ReadImport` with `ReadDecideG` is the one-level form (a total fold `stepG` under a
   predicate), and no lemma relates the two: the statements of `Props/C11Read` and `Props/C10Read` over `stepG` /
   `startFileB` rest on that form alone. Both read a component by `nodeOfX` under `coveredXB`, so an extension there
   reaches both; the import level is written twice (`stepKid`; `stepG`, `ImportOK`, `ImportSkip`, `importOKB`, `importSkipB`). -/
import ZeepVerif.Lemmas.ReadImport
import ZeepVerif.Lemmas.ReadDecideX

namespace ZeepVerif.Lemmas.ReadGraph
open ZeepVerif.Model ZeepVerif.Lemmas.ReadFile
open ZeepVerif.Lemmas.ReadExt ZeepVerif.Lemmas.ReadImport ZeepVerif.Lemmas.ReadDecideX

/-- how an imported file is read: location, importer's namespaces, nodes known to the importer, files processed so
    far ↦ its document and the files processed afterwards (`none`: outside what the pure reader covers) -/
abbrev FileReader := String → List Ns → List RNode → RS → Option (Doc × RS)

/-- one child of `schema`, with `rec` for imported files; `none` also for the imports `ReadFile.KidRun` does not cover -/
def stepKid (rec : FileReader) (files : String → Option XFile) (schemaNss : List (Option String × String))
    (anc : List XNode) (p : Doc × RS) (k : XNode) : Option (Doc × RS) :=
  if k.tag == "import" then
    match k.attr? "namespace", k.attr? "schemaLocation" with
    | some ns, some loc =>
      if Generated.Tables.wellKnownNamespaces.contains ns then none
      else
        match files loc with
        | none => none
        | some _ =>
          if p.2.processed.contains loc then some p
          else
            match rec loc p.1.namespaces (p.1.knownNodes ++ p.1.nodes) p.2 with
            | some (imp, st') => some (p.1.extend imp, st')
            | none => none
    | _, _ => none
  else if !k.isElem then some p
  else if coveredXB schemaNss p.1 anc k then some ({ p.1 with nodes := p.1.nodes ++ (nodeOfX p.1 anc k).toList }, p.2)
  else none

def foldKids (rec : FileReader) (files : String → Option XFile) (schemaNss : List (Option String × String))
    (anc : List XNode) : List XNode → Doc × RS → Option (Doc × RS)
  | [], p => some p
  | k :: rest, p =>
    match stepKid rec files schemaNss anc p k with
    | some p' => foldKids rec files schemaNss anc rest p'
    | none => none

/-- the pure reader of one file (`read_xml_internal` for files it covers); `depth` bounds the import nesting -/
def readFileG (files : String → Option XFile) : Nat → FileReader
  | 0, _, _, _, _ => none
  | depth + 1, loc, known, kn, st =>
    match files loc with
    | none => none
    | some xf =>
      if st.processed.contains loc then none
      else
        match xf.tops with
        | some [schema] =>
          if schema.isElem && schema.tag == "schema" then
            match schema.attr? "targetNamespace" with
            | some tns =>
              foldKids (readFileG files depth) files schema.nss [schema] schema.kids
                (fileDocG (startDoc known kn) schema tns, { st with processed := loc :: st.processed })
            | none => none
          else none
        | _ => none


def Sound (files : String → Option XFile) (rec : FileReader) (F : Nat) : Prop :=
  ∀ loc known kn st r, rec loc known kn st = some r → (readXmlInternal files loc known kn F).run st = .ok r

theorem stepKid_run (files : String → Option XFile) (rec : FileReader) (F : Nat) (hrec : Sound files rec F) (ctx : Ctx)
    (schemaNss : List (Option String × String)) (p p' : Doc × RS) (k : XNode)
    (habs : ∀ pu ∈ schemaNss, Absorbed p.1 pu) (hs : stepKid rec files schemaNss ctx.ancestors p k = some p') :
    KidRun files ctx F p k p' ∧ ∀ pu ∈ schemaNss, Absorbed p'.1 pu := by
  unfold stepKid at hs
  split at hs
  · rename_i himp
    have htag : k.tag = "import" := by simpa using himp
    split at hs
    · rename_i ns loc hns hloc
      split at hs
      · cases hs
      rename_i hwk
      split at hs
      · cases hs
      rename_i xf hfl
      split at hs
      · cases hs
        exact ⟨.skip htag hns (by simpa using hwk) hloc hfl ‹_›, habs⟩
      · rename_i hp
        split at hs
        · rename_i imp st' hr
          cases hs
          exact ⟨.read htag hns (by simpa using hwk) hloc hfl (by simpa using hp) (hrec _ _ _ _ _ hr),
            fun pu hpu => (habs pu hpu).mono (Doc.grows_extend _ _)⟩
        · cases hs
    · cases hs
  · rename_i himp
    -- white space or a covered component: both are `xsdStep_X`
    have hk : (k = .other ∨ CoveredX p.1 ctx.ancestors k) ∧
        p' = ({ p.1 with nodes := p.1.nodes ++ (nodeOfX p.1 ctx.ancestors k).toList }, p.2) := by
      split at hs
      · rename_i he
        cases hs
        cases k with
        | other => exact ⟨.inl rfl, by simp [nodeOfX, XNode.isElem]⟩
        | elem => simp [XNode.isElem] at he
      · rename_i he
        split at hs
        · cases hs
          exact ⟨.inr (coveredXB_sound schemaNss p.1 ctx.ancestors k habs (by simpa using he) ‹_›), rfl⟩
        · cases hs
    obtain ⟨hk, rfl⟩ := hk
    have h := xsdStep_X ctx p.1 k hk
    exact ⟨h.1 ▸ .comp (by simpa using himp) h.2, habs⟩

theorem steps_rec (files : String → Option XFile) (rec : FileReader) (F : Nat) (hrec : Sound files rec F) (ctx : Ctx)
    (schemaNss : List (Option String × String)) : (kids : List XNode) → (p r : Doc × RS) →
    (∀ pu ∈ schemaNss, Absorbed p.1 pu) → foldKids rec files schemaNss ctx.ancestors kids p = some r →
    Steps (KidRun files ctx F) p kids r
  | [], p, r, _, h => by cases h; exact .nil
  | k :: rest, p, r, habs, h => by
    simp only [foldKids] at h
    split at h
    · rename_i p' hs
      have hk := stepKid_run files rec F hrec ctx schemaNss p p' k habs hs
      exact .cons hk.1 (steps_rec files rec F hrec ctx schemaNss rest p' r hk.2 h)
    · cases h

/-- for any sound `rec`: that is what lets `readFileG_sound` go by induction on the depth -/
theorem readXsd_rec (files : String → Option XFile) (rec : FileReader) (F : Nat) (hrec : Sound files rec F)
    (file : XFile) (allElems : List (XNode × List XNode)) (schema : XNode) (anc : List XNode)
    (schemaNss : List (Option String × String)) (d : Doc) (st : RS) (r : Doc × RS)
    (habs : ∀ pu ∈ schemaNss, Absorbed d pu)
    (h : foldKids rec files schemaNss (schema :: anc) schema.kids (d, st) = some r) :
    (readXsd files file allElems schema anc d (F + 1)).run st = .ok r :=
  readXsd_run
    (steps_rec files rec F hrec { ancestors := schema :: anc, allElems := allElems } schemaNss _ _ _ habs h)


theorem readFileG_some {files : String → Option XFile} {depth : Nat} {loc : String} {known : List Ns} {kn : List RNode}
    {st : RS} {r : Doc × RS} (h : readFileG files (depth + 1) loc known kn st = some r) :
    ∃ xf schema tns, files loc = some xf ∧ st.processed.contains loc = false ∧
      xf.tops = some [schema] ∧ schema.isElem = true ∧ schema.tag = "schema" ∧ schema.attr? "targetNamespace" = some tns ∧
      foldKids (readFileG files depth) files schema.nss [schema] schema.kids
        (fileDocG (startDoc known kn) schema tns, { st with processed := loc :: st.processed }) = some r := by
  simp only [readFileG] at h
  split at h
  · cases h
  rename_i xf hfile
  split at h
  · cases h
  rename_i hp
  split at h
  · rename_i schema ht
    split at h
    · rename_i hs
      simp only [Bool.and_eq_true, beq_iff_eq] at hs
      split at h
      · exact ⟨xf, schema, _, hfile, by simpa using hp, ht, hs.1, hs.2, ‹_›, h⟩
      · cases h
    · cases h
  · cases h

/-- fuel per level of imports: 1 `readXmlInternal` + 1 `readTop` + 1 `readXsd` -/
theorem readFileG_sound (files : String → Option XFile) : ∀ (depth fuel : Nat), Sound files (readFileG files depth) (fuel + 3 * depth)
  | 0, _ => fun _ _ _ _ _ h => nomatch h
  | depth + 1, fuel => fun loc known kn st r h =>
    let ⟨xf, schema, tns, hfile, hp, ht, he, htag, htns, h⟩ := readFileG_some h
    readXmlInternal_schema (fuel + 3 * depth + 1) hfile hp ht he htag htns <|
      readXsd_rec files (readFileG files depth) (fuel + 3 * depth) (readFileG_sound files depth fuel) xf _ schema []
        schema.nss _ _ r (fileDoc_absorbs _ schema.nss tns) h

theorem readXml_graph (fs : List XFile) (start : String) (depth : Nat) (hd : 3 * depth ≤ 10000) (r : Doc × RS)
    (h : readFileG (fileTable fs) depth start [] [] { processed := [] } = some r) :
    readXml fs start = .ok r.1 := by
  apply readXml_of_run
  have := readFileG_sound (fileTable fs) depth (10000 - 3 * depth) start [] [] { processed := [] } r h
  rwa [show 10000 - 3 * depth + 3 * depth = 10000 from by omega] at this

end ZeepVerif.Lemmas.ReadGraph
