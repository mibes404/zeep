/-
File-level invariants of the reader model, for every file table. The structure of the file level is stated once, as the
rules of `Step`; each theorem about it chooses `I` and `E` and supplies its facts about a node-level run, an import and the
marking of a file. `file_keeps`: a relation between the document a file was started with and the document as it grows that
is closed under what `FileRel` lists holds of whatever `read_xml_internal` returns. `file_marks`: the traversal state.
-/
import ZeepVerif.Lemmas.Frame
import ZeepVerif.Lemmas.FileSteps

namespace ZeepVerif.Lemmas.KeepsFile
open ZeepVerif.Model Std.Do ZeepVerif.Lemmas.Keeps ZeepVerif.Lemmas.FileSteps ZeepVerif.Lemmas.Frame

set_option mvcgen.warning false

/-- what `init_with_known_namespaces` has built before it collects the root element's declarations (after: `FileSteps.rootDoc`) -/
def startDoc (known : List Ns) (knownNodes : List RNode) : Doc := { namespaces := known, knownNodes := knownNodes }

/-- Which element, context and state is forgotten (`FileRel.step` has them in hand and drops them): that a component is the
    reading of a child of a `schema` of a registered file cannot be said through `FileRel`; what holds of every result of
    `tryFromNode` can (`DocAll.tfnResult_nodeOf`). -/
def TfnResult (n : RNode) : Prop := ∃ node ctx fuel d, (runNM (tryFromNode node ctx fuel) d).1 = .ok n

structure FileRel (R : Doc → Doc → Prop) : Prop where
  inv : ∀ d0, DocInv (R d0)
  refl : ∀ known kn, R (startDoc known kn) (startDoc known kn)
  nodes : ∀ d0 d n, R d0 d → n.inNs = d.current → TfnResult n → R d0 { d with nodes := d.nodes ++ [n] }
  messages : ∀ d0 d m, R d0 d → R d0 { d with messages := d.messages ++ [m] }
  ports : ∀ d0 d m, R d0 d → R d0 { d with ports := d.ports ++ [m] }
  bindings : ∀ d0 d m, R d0 d → R d0 { d with bindings := d.bindings ++ [m] }
  services : ∀ d0 d m, R d0 d → R d0 { d with services := d.services ++ [m] }
  imported : ∀ d0 d imp, R d0 d → R (startDoc d.namespaces (d.knownNodes ++ d.nodes)) imp → R d0 (d.extend imp)

/-- given to `mvcgen` in the place of the library's `Spec.throw_MonadExcept`, which leaves universe metavariables behind for this
    monad stack -/
theorem spec_throw_FM {α} (e : Err) (Q : PostCond α (.arg RS (.except Err .pure))) :
    ⦃fun _ => Q.2.1 e⦄ (throw e : FM α) ⦃Q⦄ := by
  intro st h
  simp [WP.wp, throw, throwThe, MonadExceptOf.throw, PredTrans.pushArg, PredTrans.apply, bind, Except.bind]
  -- `Except.instWP._aux_1` is a generated name: after a change of toolchain, repair here and in `fm_run_of_triple`
  simp [Except.instWP._aux_1, WP.wp, StateT.run, PredTrans.pushExcept, PredTrans.pure, pure, Id.run, ExceptT.run]
  simpa [PredTrans.apply] using h

theorem throw_FM {α} {P : RS → Prop} {Q : α → RS → Prop} {E : Err → Prop} (e : Err) (he : E e) :
    ⦃fun st => ⌜P st⌝⦄ (throw e : FM α) ⦃post⟨fun a st => ⌜Q a st⌝, fun e => ⌜E e⌝⟩⦄ := by
  mvcgen [spec_throw_FM, -Spec.throw_MonadExcept]

theorem conseq_FM {α} {x : FM α} {P : RS → Prop} {Q Q' : α → RS → Prop} {E E' : Err → Prop}
    (h : ⦃fun st => ⌜P st⌝⦄ x ⦃post⟨fun a st => ⌜Q a st⌝, fun e => ⌜E e⌝⟩⦄) (hq : ∀ a st, Q a st → Q' a st) (he : ∀ e, E e → E' e) :
    ⦃fun st => ⌜P st⌝⦄ x ⦃post⟨fun a st => ⌜Q' a st⌝, fun e => ⌜E' e⌝⟩⦄ :=
  h.entails_wp_of_post (by simp only [PostCond.entails]; exact ⟨hq, he, ExceptConds.entails.rfl⟩)

theorem fm_run_of_triple {α} {x : FM α} {P : RS → Prop} {Q : α → RS → Prop} {E : Err → Prop}
    (h : ⦃fun st => ⌜P st⌝⦄ x ⦃post⟨fun a st => ⌜Q a st⌝, fun e => ⌜E e⌝⟩⦄) {st : RS} (hp : P st) :
    (∀ a st', x.run st = .ok (a, st') → Q a st') ∧ (∀ e, x.run st = .error e → E e) := by
  have := h st hp
  simp [WP.wp, PredTrans.pushArg, PredTrans.apply] at this
  simp [Except.instWP._aux_1, WP.wp, StateT.run, PredTrans.pushExcept, PredTrans.pure, pure, Id.run, ExceptT.run, PredTrans.apply] at this
  revert this
  simp only [StateT.run]
  cases x st with
  | error e => simp
  | ok r => exact fun h => ⟨fun _ _ e => by cases e; exact h, nofun⟩

theorem readXmlOn_of_triple {files : String → Option XFile} {start : String} {fuel : Nat} {P : RS → Prop} {Q : Doc → RS → Prop}
    {E : Err → Prop} (h : ⦃fun st => ⌜P st⌝⦄ readXmlInternal files start [] [] fuel ⦃post⟨fun d st => ⌜Q d st⌝, fun e => ⌜E e⌝⟩⦄)
    (flags : RS) (hp : P { flags with processed := [] }) :
    (∀ d, (readXmlOn files start flags fuel).1 = .ok d → Q d (readXmlOn files start flags fuel).2) ∧
    (∀ e, (readXmlOn files start flags fuel).1 = .error e → E e) := by
  have := fm_run_of_triple h hp
  simp only [readXmlOn]
  revert this
  cases (readXmlInternal files start [] [] fuel).run { flags with processed := [] } with
  | error e => exact fun h => ⟨nofun, fun _ he => h.2 _ (by cases he; rfl)⟩
  | ok r => exact fun h => ⟨fun _ hd => by cases hd; exact h.1 _ _ rfl, nofun⟩

/-! `Step I E f`: the step `f : Doc → FM Doc` keeps the invariant `I` between the document and the traversal state, and fails only
with an error in `E`. Combinators (`ret`, `ite`, `foldlM`, `throw`), a rule for each leaf step (`ofNode`, `ofComp`, `ofImport`)
and one for each file-level function (`ofXsd`, `ofTop`, `readXmlInternal_rule`). -/

abbrev Step (I : Doc → RS → Prop) (E : Err → Prop) (f : Doc → FM Doc) : Prop :=
  ∀ d, ⦃fun st => ⌜I d st⌝⦄ f d ⦃post⟨fun d' st' => ⌜I d' st'⌝, fun e => ⌜E e⌝⟩⦄

variable {I : Doc → RS → Prop} {E : Err → Prop}

theorem Step.ret : Step I E (fun d => pure d) := by
  intro d
  mvcgen

theorem Step.ite {c : Prop} [Decidable c] {f g : Doc → FM Doc} (hf : Step I E f) (hg : Step I E g) :
    Step I E (fun d => if c then f d else g d) := by
  intro d
  dsimp only
  split
  · exact hf d
  · exact hg d

theorem Step.foldlM {α} {f : Doc → α → FM Doc} (hf : ∀ a, Step I E (f · a)) (l : List α) : Step I E (fun d => l.foldlM f d) := by
  induction l with
  | nil => exact Step.ret
  | cons a l ih => intro d; dsimp only; rw [List.foldlM_cons]; exact Triple.bind _ _ (hf a d) ih

theorem Step.throw (e : Err) (he : E e) : Step I E (fun _ => throw e) := fun _ => throw_FM e he

theorem Step.ofNode {α} (x : NM α) (push : Doc → α → Doc)
    (hok : ∀ d st a, I d st → (runNM x d).1 = .ok a → I (push (runNM x d).2 a) st)
    (herr : ∀ d st e, I d st → (runNM x d).1 = .error e → E e) : Step I E (nodeStep x push) := by
  intro d
  unfold FileSteps.nodeStep
  have hok := hok d
  have herr := herr d
  revert hok herr
  rcases runNM x d with ⟨e | a, d'⟩ <;> intro hok herr <;> mvcgen [spec_throw_FM, -Spec.throw_MonadExcept]
  · exact herr _ e ‹_› rfl
  · exact hok _ a ‹_› rfl

/-- a failed reading is dropped, but what it did to the document stays; only `outOfFuel` ends the file -/
theorem Step.ofComp (ctx : Ctx) (child : XNode)
    (hok : ∀ d st n, I d st → (runNM (tryFromNode child ctx nodeFuel) d).1 = .ok n →
      I { (runNM (tryFromNode child ctx nodeFuel) d).2 with nodes := (runNM (tryFromNode child ctx nodeFuel) d).2.nodes ++ [n] } st)
    (herr : ∀ d st e, I d st → (runNM (tryFromNode child ctx nodeFuel) d).1 = .error e →
      I (runNM (tryFromNode child ctx nodeFuel) d).2 st ∧ (e = Err.outOfFuel → E e)) : Step I E (compStep ctx child) := by
  intro d
  unfold FileSteps.compStep
  have hok := hok d
  have herr := herr d
  revert hok herr
  rcases runNM (tryFromNode child ctx nodeFuel) d with ⟨e | n, d'⟩ <;> intro hok herr
  · by_cases he : e = Err.outOfFuel
    · subst he
      simp only [beq_self_eq_true, if_true]
      mvcgen [spec_throw_FM, -Spec.throw_MonadExcept]
      exact (herr _ _ ‹_› rfl).2 rfl
    · simp only [beq_iff_eq, he, if_false]
      mvcgen
      exact (herr _ _ ‹_› rfl).1
  · mvcgen
    exact hok _ n ‹_› rfl

theorem Step.ofImport (files : String → Option XFile) (fuel : Nat) (child : XNode) (h1 : E .namespaceMissing) (h2 : E .importNotFound)
    (h : ∀ d loc f, files loc = some f → ⦃fun st => ⌜I d st ∧ loc ∉ st.processed⌝⦄
      readXmlInternal files loc d.namespaces (d.knownNodes ++ d.nodes) fuel
      ⦃post⟨fun imp st' => ⌜I (d.extend imp) st'⌝, fun e => ⌜E e⌝⟩⦄) : Step I E (importStep files fuel child) := by
  intro d
  have h' := fun loc f hf => h d loc f hf
  mvcgen [FileSteps.importStep, spec_throw_FM, -Spec.throw_MonadExcept, h']
  all_goals simp_all

theorem Step.ofXsd (files : String → Option XFile) (file : XFile) (all : List (XNode × List XNode)) (schema : XNode) (anc : List XNode)
    (fuel : Nat) (himp : ∀ child, Step I E (importStep files fuel child))
    (hcomp : ∀ child, Step I E (compStep { ancestors := schema :: anc, allElems := all } child)) :
    Step I E (readXsd files file all schema anc · (fuel + 1)) := by
  intro d
  dsimp only
  rw [readXsd_succ]
  exact Step.foldlM (fun child => Step.ite (himp child) (hcomp child)) _ d

theorem Step.ofTop (files : String → Option XFile) (file : XFile) (all : List (XNode × List XNode)) (node : XNode) (fuel : Nat)
    (hxsd : ∀ schema anc, Step I E (readXsd files file all schema anc · fuel))
    (hswitch : ∀ d st tns, I d st → I (d.switchToTargetNamespace tns) st) (he : E .schemaNotFound)
    (hmsg : ∀ child, Step I E (nodeStep (messageFromNode child { ancestors := [node], allElems := all } nodeFuel)
      fun d m => { d with messages := d.messages ++ [m] }))
    (hport : ∀ child, Step I E (nodeStep (portFromNode child) fun d p => { d with ports := d.ports ++ [p] }))
    (hbind : ∀ child, Step I E (nodeStep (bindingFromNode child file.urls) fun d b => { d with bindings := d.bindings ++ [b] }))
    (hsvc : ∀ child, Step I E (nodeStep (serviceFromNode child file.urls) fun d s => { d with services := d.services ++ [s] })) :
    Step I E (readTop files file all node · (fuel + 1)) := by
  have htypes : ∀ child, Step I E (typesStep files file all node fuel child) := by
    intro child d
    unfold typesStep
    split
    · exact Step.throw _ he d
    · exact hxsd _ _ d
  have hdefs : ∀ child, Step I E (defsStep files file all node fuel · child) := fun child =>
    Step.ite (htypes child) <| Step.ite (hmsg child) <| Step.ite (hport child) <| Step.ite (hbind child) <|
      Step.ite (hsvc child) Step.ret
  have hrest : Step I E fun d =>
      if node.tag = "schema" then readXsd files file all node [] d fuel
      else if node.tag = "definitions" then node.kids.foldlM (defsStep files file all node fuel) d
      else pure d :=
    Step.ite (hxsd node []) <| Step.ite (Step.foldlM hdefs _) Step.ret
  intro d
  dsimp only
  rw [readTop_succ]
  split
  · exact Step.ret d
  · refine fun st hst => hrest _ st ?_
    split
    · exact hswitch _ _ _ hst
    · exact hst

theorem readXmlInternal_rule (files : String → Option XFile) (name : String) (known : List Ns) (kn : List RNode) (fuel : Nat)
    {Pre : RS → Prop} {Post : Doc → RS → Prop} (h1 : E .importNotFound) (h2 : E .message)
    (hdone : ∀ st, Pre st → name ∈ st.processed → Post {} st)
    (hroot : ∀ st file tops, Pre st → name ∉ st.processed → files name = some file → file.tops = some tops →
      I (rootDoc tops known kn) { st with processed := name :: st.processed })
    (htop : ∀ file tops node, files name = some file → file.tops = some tops →
      Step I E (readTop files file (allElemsOf tops []) node · fuel))
    (hpost : ∀ d st, I d st → Post d st) :
    ⦃fun st => ⌜Pre st⌝⦄ readXmlInternal files name known kn (fuel + 1) ⦃post⟨fun d st => ⌜Post d st⌝, fun e => ⌜E e⌝⟩⦄ := by
  rw [readXmlInternal_succ]
  split
  · mvcgen [spec_throw_FM, -Spec.throw_MonadExcept]
  · rename_i file hfile
    have hloop : ∀ (tops : List XNode) d, file.tops = some tops →
        ⦃fun st => ⌜I d st⌝⦄ tops.foldlM (fun d child => readTop files file (allElemsOf tops []) child d fuel) d
        ⦃post⟨fun d' st' => ⌜I d' st'⌝, fun e => ⌜E e⌝⟩⦄ :=
      fun tops d ht => Step.foldlM (fun child d => htop file tops child hfile ht d) tops d
    -- without the library's specification of `foldlM`, which asks for an invariant, `mvcgen` takes `hloop` for the loop
    mvcgen [spec_throw_FM, -Spec.throw_MonadExcept, -Spec.foldlM_list, hloop]
    · exact hdone _ ‹_› (List.contains_iff_mem.mp ‹_›)
    · exact hroot _ _ _ ‹_› (fun h => ‹¬_ = true› (List.contains_iff_mem.mpr h)) hfile ‹_›
    · exact hpost _ _

macro "fk " hR:ident d0:term : tactic => `(tactic| (
  (try simp only [SPred.down_pure, PostCond.mayThrow] at *)
  (try intros)
  (try show $d0 _)
  repeat (first | assumption | trivial | exact True.intro | exact ExceptConds.entails.rfl | apply FileRel.services $hR | apply FileRel.bindings $hR | apply FileRel.ports $hR | apply FileRel.messages $hR | apply FileRel.nodes $hR | apply FileRel.imported $hR | apply Keeps.run (P := $d0) (keeps_service _ _) | apply Keeps.run (P := $d0) (keeps_binding _ _) | apply Keeps.run (P := $d0) (keeps_port _) | apply Keeps.run (P := $d0) (keeps_message (FileRel.inv $hR _) _ _ _) | apply Keeps.run (P := $d0) ((block_keeps (FileRel.inv $hR _) _).tfn _ _) | (apply tfn_run_inNs; assumption) | (show TfnResult _; exact ⟨_, _, _, _, by assumption⟩))))

structure FileKeeps (R : Doc → Doc → Prop) (files : String → Option XFile) (fuel : Nat) : Prop where
  int : ∀ name known kn, ⦃fun st => ⌜name ∉ st.processed⌝⦄ readXmlInternal files name known kn fuel ⦃⇓? d => ⌜R (startDoc known kn) d⌝⦄
  top : ∀ file all node d0 d, R d0 d → ⦃fun _ => ⌜True⌝⦄ readTop files file all node d fuel ⦃⇓? d' => ⌜R d0 d'⌝⦄
  xsd : ∀ file all schema anc d0 d, R d0 d → ⦃fun _ => ⌜True⌝⦄ readXsd files file all schema anc d fuel ⦃⇓? d' => ⌜R d0 d'⌝⦄

theorem FileRel.rootDoc {R} (hR : FileRel R) (tops : List XNode) (known : List Ns) (kn : List RNode) :
    R (startDoc known kn) (rootDoc tops known kn) := by
  unfold FileSteps.rootDoc
  split
  · exact (hR.inv _).collect _ _ (hR.refl _ _)
  · exact hR.refl _ _

theorem FileRel.step {R} (hR : FileRel R) {files : String → Option XFile} {fuel : Nat} (ih : FileKeeps R files fuel) (d0 : Doc)
    (file : XFile) (all : List (XNode × List XNode)) :
    (∀ schema anc, Step (fun d _ => R d0 d) (fun _ => True) (readXsd files file all schema anc · (fuel + 1))) ∧
    (∀ node, Step (fun d _ => R d0 d) (fun _ => True) (readTop files file all node · (fuel + 1))) := by
  have hnode : ∀ {α} (x : NM α) (push : Doc → α → Doc), Keeps (R d0) x → (∀ d a, R d0 d → R d0 (push d a)) →
      Step (fun d _ => R d0 d) (fun _ => True) (nodeStep x push) :=
    fun x push hx hpush => Step.ofNode x push (fun d _ a hd _ => hpush _ a (hx.run d hd)) (fun _ _ _ _ _ => trivial)
  refine ⟨fun schema anc => ?_, fun node => ?_⟩
  · refine Step.ofXsd files file all schema anc fuel (fun child => ?_) (fun child => ?_)
    · exact Step.ofImport files fuel child trivial trivial fun d loc f _ st hst =>
        conseq_FM (ih.int loc d.namespaces (d.knownNodes ++ d.nodes)) (fun imp _ himp => hR.imported d0 d imp hst.1 himp) (fun _ => id) st hst.2
    · have hk := fun d hd => ((block_keeps (hR.inv d0) nodeFuel).tfn child { ancestors := schema :: anc, allElems := all }).run d hd
      exact Step.ofComp _ child
        (fun d _ n hd hn => hR.nodes d0 _ n (hk d hd) (tfn_run_inNs child _ nodeFuel d n hn) ⟨child, _, nodeFuel, d, hn⟩)
        (fun d _ e hd _ => ⟨hk d hd, fun _ => trivial⟩)
  · exact Step.ofTop files file all node fuel (fun schema anc d st hd => ih.xsd file all schema anc d0 d hd st trivial)
      (fun d _ tns hd => (hR.inv d0).switch d tns hd) trivial
      (fun child => hnode _ _ (Frame.keeps fun rs => frame_message (hR.inv d0) all child _ rs nodeFuel) (hR.messages d0))
      (fun child => hnode _ _ (Frame.keeps fun rs => frame_port _ rs True child) (hR.ports d0))
      (fun child => hnode _ _ (Frame.keeps fun rs => frame_binding _ rs True child file.urls) (hR.bindings d0))
      (fun child => hnode _ _ (Frame.keeps fun rs => frame_service _ rs True child file.urls) (hR.services d0))

theorem file_keeps {R} (hR : FileRel R) (files : String → Option XFile) : ∀ fuel, FileKeeps R files fuel := by
  intro fuel
  induction fuel with
  | zero =>
    exact ⟨fun _ _ _ => throw_FM _ trivial, fun _ _ _ _ _ _ => throw_FM _ trivial, fun _ _ _ _ _ _ _ => throw_FM _ trivial⟩
  | succ fuel ih =>
    refine ⟨fun name known kn => ?_, fun file all node d0 d hd st _ => (hR.step ih d0 file all).2 node d st hd,
      fun file all schema anc d0 d hd st _ => (hR.step ih d0 file all).1 schema anc d st hd⟩
    exact readXmlInternal_rule (I := fun d _ => R (startDoc known kn) d) files name known kn fuel trivial trivial
      (fun _ h h' => absurd h' h) (fun _ _ tops _ _ _ _ => hR.rootDoc tops known kn)
      (fun file tops node _ _ d st hd => ih.top file _ node _ d hd st trivial) (fun _ _ h => h)

/-- the traversal state changes in one way only: a name that is not marked gets marked -/
theorem file_marks (files : String → Option XFile) {J : RS → Prop}
    (hJ : ∀ st name, J st → name ∉ st.processed → J { st with processed := name :: st.processed }) (fuel : Nat) :
    (∀ name known kn, ⦃fun st => ⌜J st⌝⦄ readXmlInternal files name known kn fuel ⦃⇓? _ st' => ⌜J st'⌝⦄) ∧
    (∀ file all node, Step (fun _ st => J st) (fun _ => True) (readTop files file all node · fuel)) ∧
    (∀ file all schema anc, Step (fun _ st => J st) (fun _ => True) (readXsd files file all schema anc · fuel)) := by
  induction fuel with
  | zero =>
    exact ⟨fun _ _ _ => throw_FM _ trivial, fun _ _ _ _ => throw_FM _ trivial, fun _ _ _ _ _ => throw_FM _ trivial⟩
  | succ fuel ih =>
    have hnode : ∀ {α} (x : NM α) (push : Doc → α → Doc), Step (fun _ st => J st) (fun _ => True) (nodeStep x push) :=
      fun x push => Step.ofNode x push (fun _ _ _ h _ => h) (fun _ _ _ _ _ => trivial)
    refine ⟨fun name known kn => ?_, fun file all node => ?_, fun file all schema anc => ?_⟩
    · exact readXmlInternal_rule (I := fun _ st => J st) files name known kn fuel trivial trivial (fun _ h _ => h)
        (fun st _ _ h hn _ _ => hJ st name h hn) (fun file _ node _ _ => ih.2.1 file _ node) (fun _ _ h => h)
    · exact Step.ofTop files file all node fuel (ih.2.2 file all) (fun _ _ _ h => h) trivial
        (fun _ => hnode _ _) (fun _ => hnode _ _) (fun _ => hnode _ _) (fun _ => hnode _ _)
    · refine Step.ofXsd files file all schema anc fuel (fun child => ?_) (fun child => ?_)
      · exact Step.ofImport files fuel child trivial trivial fun d loc f _ st hst => ih.1 loc _ _ st hst.1
      · exact Step.ofComp _ child (fun _ _ _ h _ => h) (fun _ _ _ h _ => ⟨h, fun _ => trivial⟩)

theorem int_from_root {R} (hR : FileRel R) (hrefl : ∀ d, R d d) (files : String → Option XFile) (name : String)
    (known : List Ns) (kn : List RNode) (fuel : Nat) :
    ⦃fun st => ⌜name ∉ st.processed⌝⦄ readXmlInternal files name known kn (fuel + 1)
    ⦃⇓? d => ⌜∃ file tops, files name = some file ∧ file.tops = some tops ∧ R (rootDoc tops known kn) d⌝⦄ :=
  readXmlInternal_rule (I := fun d _ => ∃ file tops, files name = some file ∧ file.tops = some tops ∧ R (rootDoc tops known kn) d)
    files name known kn fuel trivial trivial (fun _ h h' => absurd h' h)
    (fun _ file tops _ _ hf ht => ⟨file, tops, hf, ht, hrefl _⟩)
    (fun file _ node _ _ d st ⟨f, tops, hf, ht, hd⟩ =>
      conseq_FM ((file_keeps hR files fuel).top file _ node _ d hd) (fun _ _ hd' => ⟨f, tops, hf, ht, hd'⟩) (fun _ => id) st trivial)
    (fun _ _ h => h)

theorem readXml_rel {R} (hR : FileRel R) (files : List XFile) (start : String) (fuel : Nat) (d : Doc)
    (h : readXml files start fuel = .ok d) : R (startDoc [] []) d :=
  (readXmlOn_of_triple ((file_keeps hR (fileTable files) fuel).int start [] []) {} (List.not_mem_nil)).1 d h

end ZeepVerif.Lemmas.KeepsFile
