/- Decidable form of the hypotheses of `readXml_covered_fileX` (derivation included), and soundness. -/
import ZeepVerif.Lemmas.ReadExt
import ZeepVerif.Lemmas.ReadDecide

namespace ZeepVerif.Lemmas.ReadDecideX
open ZeepVerif.Model ZeepVerif.Lemmas.ReadFile
open ZeepVerif.Lemmas.ReadExt ZeepVerif.Lemmas.ReadDecide

def plainExtB (d : Doc) (anc : List XNode) (cc : XNode) : Bool :=
  match cc.kids.find? isExtension with
  | none => false
  | some ext =>
    match ext.attr? "base" with
    | none => false
    | some baseName =>
      (lookupRead d (resolveType d baseName).1 (resolveType d baseName).2 .type).isSome &&
      (memberSites ext (cc :: anc)).all (fun st => plainDeclB st.1) &&
      ext.elemKids.all (fun a => a.tag != "attribute" || plainDeclB a)

theorem plainExtB_sound (d : Doc) (anc : List XNode) (cc : XNode) (h : plainExtB d anc cc = true) :
    ∃ ext bn, PlainExt d anc cc ext bn := by
  unfold plainExtB at h
  split at h
  · cases h
  rename_i ext hf
  split at h
  · cases h
  rename_i baseName hb
  simp only [Bool.and_eq_true, Option.isSome_iff_exists, List.all_eq_true, Bool.or_eq_true, bne_iff_ne, ne_eq, plainDeclB_iff,
    ← Decidable.imp_iff_not_or] at h
  obtain ⟨⟨⟨bn, hl⟩, h2⟩, h3⟩ := h
  exact ⟨ext, bn, hf, ⟨baseName, hb, hl⟩, h2, h3⟩

def plainChildXB (d : Doc) (anc : List XNode) (k : XNode) : Bool :=
  if k.tag == "complexContent" then plainExtB d anc k && k.elemKids.all (fun c => c.tag != "sequence")
  else plainChildB anc k

theorem plainChildXB_sound (d : Doc) (anc : List XNode) (k : XNode) (h : plainChildXB d anc k = true) :
    PlainChildX d anc k := by
  unfold plainChildXB at h
  split at h
  · rename_i hcc
    simp only [Bool.and_eq_true, List.all_eq_true, bne_iff_ne] at h
    exact ⟨fun _ => ⟨plainExtB_sound d anc k h.1, h.2⟩, fun hne => absurd (by simpa using hcc) hne⟩
  · rename_i hcc
    exact ⟨fun he => absurd (by simpa using he) hcc, fun _ => (plainChildB_iff anc k).mp h⟩

def coveredXB (schemaNss : List (Option String × String)) (d : Doc) (anc : List XNode) (k : XNode) : Bool :=
  (k.attr? "targetNamespace").isNone && k.nss.all (fun pu => schemaNss.contains pu) && (compOfX d anc k).isSome &&
  (k.tag != "complexType" || k.elemKids.all (plainChildXB d (k :: anc))) &&
  (k.tag != "element" || (k.attr? "type").isSome ||
    (match k.elemKids.find? (fun n => n.tag == "complexType") with
     | none => true
     | some ct => (ct.attr? "name").isNone && ct.nss.all (fun pu => schemaNss.contains pu) &&
         ct.elemKids.all (plainChildXB d (ct :: k :: anc))))

theorem coveredXB_sound (schemaNss : List (Option String × String)) (d : Doc) (anc : List XNode) (k : XNode)
    (habs : ∀ pu ∈ schemaNss, Absorbed d pu) (he : k.isElem = true) (h : coveredXB schemaNss d anc k = true) :
    CoveredX d anc k := by
  have hab : ∀ {l : List (Option String × String)}, (∀ pu ∈ l, pu ∈ schemaNss) → ∀ pu ∈ l, Absorbed d pu :=
    fun hl pu hpu => habs pu (hl pu hpu)
  have hch : ∀ {anc} {l : List XNode}, (∀ c ∈ l, plainChildXB d anc c = true) → ∀ c ∈ l, PlainChildX d anc c :=
    fun hl c hc => plainChildXB_sound d _ c (hl c hc)
  simp only [coveredXB, Bool.and_eq_true, Bool.or_eq_true, bne_iff_ne, ne_eq, Option.isNone_iff_eq_none, List.all_eq_true,
    List.contains_iff_mem, ← Decidable.imp_iff_not_or] at h
  obtain ⟨⟨⟨⟨h1, h2⟩, h3⟩, h4⟩, h5⟩ := h
  refine ⟨he, h1, hab h2, h3, fun htg => hch (h4 htg), fun htg hty ct hct => ?_⟩
  rcases h5 with h5 | h5
  · simp [hty] at h5
    exact absurd htg h5
  · simp only [hct, Bool.and_eq_true, Option.isNone_iff_eq_none, List.all_eq_true, List.contains_iff_mem] at h5
    exact ⟨h5.1.1, hab h5.1.2, hch h5.2⟩

theorem kidB_sound (schemaNss : List (Option String × String)) (d : Doc) (anc : List XNode) (k : XNode)
    (habs : ∀ pu ∈ schemaNss, Absorbed d pu) (h : (!k.isElem || coveredXB schemaNss d anc k) = true) :
    k = .other ∨ CoveredX d anc k := by
  cases k with
  | other => exact .inl rfl
  | elem => exact .inr (coveredXB_sound schemaNss d anc _ habs rfl (by simpa [XNode.isElem] using h))

def covXB (schemaNss : List (Option String × String)) (d : Doc) (anc : List XNode) : List XNode → List RNode → Bool
  | [], _ => true
  | k :: rest, acc =>
    (!k.isElem || coveredXB schemaNss { d with nodes := acc } anc k) && k.tag != "import" &&
    covXB schemaNss d anc rest (acc ++ (nodeOfX { d with nodes := acc } anc k).toList)

theorem covXB_sound (schemaNss : List (Option String × String)) (d : Doc) (anc : List XNode)
    (habs : ∀ pu ∈ schemaNss, Absorbed d pu) : (kids : List XNode) → (acc : List RNode) →
    covXB schemaNss d anc kids acc = true → CovX d anc kids acc
  | [], _, _ => trivial
  | k :: rest, acc, h => by
    simp only [covXB, Bool.and_eq_true, bne_iff_ne, ne_eq] at h
    exact ⟨kidB_sound schemaNss { d with nodes := acc } anc k habs h.1.1, h.1.2, covXB_sound schemaNss d anc habs rest _ h.2⟩

def coveredFileXB (xf : XFile) : Bool :=
  match xf.tops with
  | some [schema] =>
    schema.isElem && schema.tag == "schema" &&
    (match schema.attr? "targetNamespace" with
     | some tns => covXB schema.nss (fileDoc schema tns) [schema] schema.kids (fileDoc schema tns).nodes
     | none => false)
  | _ => false

/-- `P` tests the content: `coveredFileXB`, `ReadDecideG.leafFileB`, `ReadDecideG.startFileB` -/
theorem schemaFileB_sound (xf : XFile) (P : XNode → String → Bool)
    (h : (match xf.tops with
      | some [schema] =>
        schema.isElem && schema.tag == "schema" &&
        (match schema.attr? "targetNamespace" with
         | some tns => P schema tns
         | none => false)
      | _ => false) = true) :
    ∃ schema tns, xf.tops = some [schema] ∧ schema.isElem = true ∧ schema.tag = "schema" ∧
      schema.attr? "targetNamespace" = some tns ∧ P schema tns = true := by
  split at h
  · rename_i schema ht
    simp only [Bool.and_eq_true, beq_iff_eq] at h
    obtain ⟨⟨he, htag⟩, hk⟩ := h
    split at hk
    · exact ⟨schema, _, ht, he, htag, ‹_›, hk⟩
    · cases hk
  · cases h

theorem coveredFileXB_sound (xf : XFile) (h : coveredFileXB xf = true) : ∃ schema tns, CoveredFileX xf schema tns :=
  let ⟨schema, tns, ht, he, htag, hq, hk⟩ := schemaFileB_sound xf _ h
  ⟨schema, tns, ht, he, htag, hq, covXB_sound schema.nss _ [schema] (fileDoc_absorbs {} schema.nss tns) schema.kids _ hk⟩

theorem readXml_of_coveredFileXB (xf : XFile) (h : coveredFileXB xf = true) :
    ∃ schema tns, xf.tops = some [schema] ∧ readXml [xf] xf.name =
      .ok { fileDoc schema tns with
            nodes := nodesFrom (fileDoc schema tns) [schema] schema.kids (fileDoc schema tns).nodes } := by
  obtain ⟨schema, tns, hp⟩ := coveredFileXB_sound xf h
  exact ⟨schema, tns, hp.tops, readXml_covered_fileX xf schema tns hp⟩

end ZeepVerif.Lemmas.ReadDecideX
