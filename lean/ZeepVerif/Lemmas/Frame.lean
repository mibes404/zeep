/-
The frame of the node-level reader, for every input. One sweep over the mutual block (`block_frame`) and one theorem for each
reader beside it show three things at once about a call, on a value and on an error exit: it keeps every `DocInv` predicate,
it hands the `resolving` stack back as it found it (except on `outOfFuel`, which the third excludes), and it does not run out
of fuel when the fuel covers the keys not yet on the stack. The two readings, `block_keeps` and `block_bounded`, are at the end,
in the namespaces `Lemmas.Keeps` and `Lemmas.Depth`.
-/
import ZeepVerif.Lemmas.Depth
import ZeepVerif.Lemmas.NodeSteps

namespace ZeepVerif.Lemmas.Frame
open ZeepVerif.Model Std.Do ZeepVerif.Lemmas.Keeps ZeepVerif.Lemmas.Depth ZeepVerif.Lemmas.NodeSteps

set_option mvcgen.warning false

def Inv (P : Doc → Prop) (rs : List Key) (d : Doc) : Prop := P d ∧ d.resolving = rs

variable {P : Doc → Prop} {rs : List Key}

theorem Inv.collect (h : DocInv P) (nss) {d : Doc} (hd : Inv P rs d) : Inv P rs (d.collectNamespaces nss) :=
  ⟨h.collect nss d hd.1, (collect_resolving d nss).trans hd.2⟩

theorem Inv.switch (h : DocInv P) (ns) {d : Doc} (hd : Inv P rs d) : Inv P rs (d.switchToTargetNamespace ns) :=
  ⟨h.switch d ns hd.1, (switch_resolving d ns).trans hd.2⟩

theorem Inv.push (h : DocInv P) (key : Key) {d : Doc} (hd : Inv P rs d) :
    Inv P (rs ++ [key]) { d with resolving := d.resolving ++ [key] } :=
  ⟨h.push d key hd.1, by rw [← hd.2]⟩

theorem Inv.pop (h : DocInv P) (key : Key) {d : Doc} (hd : Inv P (rs ++ [key]) d) :
    Inv P rs { d with resolving := d.resolving.dropLast } :=
  ⟨h.pop d hd.1, by show d.resolving.dropLast = rs; rw [hd.2, List.dropLast_concat]⟩

/-- the stack is `rs` again unless the error is `outOfFuel`, which skips the pops on its way up; that error does not occur when `ok` -/
def ErrInv (P : Doc → Prop) (rs : List Key) (ok : Prop) (e : Err) (d : Doc) : Prop :=
  P d ∧ (e = Err.outOfFuel → ¬ok) ∧ (e ≠ Err.outOfFuel → d.resolving = rs)

theorem ErrInv.of_inv {ok : Prop} {e : Err} {d : Doc} (hd : Inv P rs d) (he : e ≠ Err.outOfFuel) : ErrInv P rs ok e d :=
  ⟨hd.1, fun h => absurd h he, fun _ => hd.2⟩

theorem ErrInv.weaken {ok ok' : Prop} {e : Err} {d : Doc} (h : ok' → ok) (hd : ErrInv P rs ok e d) : ErrInv P rs ok' e d :=
  ⟨hd.1, fun he o => hd.2.1 he (h o), hd.2.2⟩

/-- also the invariant of the loops that stay `for` loops: it ignores the value, so it fits a cursor with a loop state as well -/
abbrev framePost (P : Doc → Prop) (rs : List Key) (ok : Prop) {α} : PostCond α (.except Err (.arg Doc .pure)) :=
  post⟨fun _ d' => ⌜Inv P rs d'⌝, fun e d' => ⌜ErrInv P rs ok e d'⌝⟩

abbrev Frame (P : Doc → Prop) (rs : List Key) (ok : Prop) {α} (x : NM α) : Prop :=
  ⦃fun d => ⌜Inv P rs d⌝⦄ x ⦃framePost P rs ok⦄

/-- The conditions of a sweep for `Frame` are of three kinds: `Inv` after some transformers, closed by the rules given; `ErrInv`,
    handed on from a callee or, for an error the function throws itself (never `outOfFuel`), from `Inv`; and that a callee is given
    the elements of the same file. -/
macro "frame_vc " "[" rules:Lean.Parser.Tactic.SolveByElim.arg,* "]" : tactic => `(tactic|
  first
  | exact fun _ h => h
  | (refine ErrInv.of_inv ?_ (by decide); apply_rules [$rules,*])
  | apply_rules [$rules,*]
  | rfl)

theorem frame_simple (h : DocInv P) (rs : List Key) (ok : Prop) (node : XNode) : Frame P rs ok (simpleFromNode node) := by
  mvcgen -trivial [simpleFromNode, collectNamespacesOnNode, modifyDoc, liftOpt, getDoc] invariants
  · framePost P rs ok
  with frame_vc [Inv.collect h]

theorem Frame.weaken {ok ok' : Prop} {α} {x : NM α} (hx : Frame P rs ok x) (h : ok' → ok) : Frame P rs ok' x :=
  conseq_NM hx (fun _ _ => id) fun _ _ hd => hd.weaken h

section combinators
variable {ok : Prop} {α β : Type}

theorem Frame.pure (a : α) : Frame P rs ok (pure a) := by
  mvcgen

theorem Frame.bind {x : NM α} {f : α → NM β} (hx : Frame P rs ok x) (hf : ∀ a, Frame P rs ok (f a)) : Frame P rs ok (x >>= f) :=
  Triple.bind _ _ hx hf

theorem Frame.map {x : NM α} (f : α → β) (hx : Frame P rs ok x) : Frame P rs ok (f <$> x) := by
  rw [map_eq_pure_bind]
  exact hx.bind fun a => Frame.pure _

theorem Frame.ite {c : Prop} [Decidable c] {x y : NM α} (hx : Frame P rs ok x) (hy : Frame P rs ok y) :
    Frame P rs ok (if c then x else y) := by
  split
  · exact hx
  · exact hy

theorem Frame.foldlM {f : β → α → NM β} (hf : ∀ b a, Frame P rs ok (f b a)) (l : List α) (b : β) : Frame P rs ok (l.foldlM f b) := by
  induction l generalizing b with
  | nil => exact Frame.pure b
  | cons a l ih => rw [List.foldlM_cons]; exact (hf b a).bind ih

theorem Frame.liftOpt (o : Option α) {e : Err} (he : e ≠ Err.outOfFuel) : Frame P rs ok (liftOpt o e) := by
  cases o <;> mvcgen -trivial [Model.liftOpt]
  · exact ErrInv.of_inv ‹_› he
  · assumption

theorem Frame.getDoc : Frame P rs ok getDoc := by
  mvcgen [Model.getDoc]

theorem Frame.collect (h : DocInv P) (node : XNode) : Frame P rs ok (collectNamespacesOnNode node) := by
  mvcgen -trivial [collectNamespacesOnNode, modifyDoc]
  exact Inv.collect h _ ‹_›

theorem Frame.seqBlocks {parent : XNode} {ctx : Ctx} {fuel : Nat} (hseq : ∀ acc, Frame P rs ok (importSequence parent ctx acc fuel))
    (kids : List XNode) (fields : List Field) : Frame P rs ok (seqBlocks parent ctx fuel kids fields) :=
  Frame.foldlM (fun fields _ => Frame.ite (hseq fields) (Frame.pure _)) kids fields

theorem Frame.attrFields {ctx : Ctx} {fuel : Nat} (hfld : ∀ n, Frame P rs ok (fieldFromNode n ctx fuel))
    (kids : List XNode) (fields : List Field) : Frame P rs ok (attrFields ctx fuel kids fields) :=
  Frame.foldlM (fun fields n => Frame.ite ((hfld n).map (fields ++ [·])) (Frame.pure _)) kids fields

end combinators

theorem Frame.okOrNone_strict {ok : Prop} {α} {x : NM α} (hx : Frame P rs ok x) :
    ⦃fun d => ⌜Inv P rs d⌝⦄ okOrNone x ⦃post⟨fun _ d' => ⌜Inv P rs d'⌝, fun e d' => ⌜P d' ∧ e = Err.outOfFuel ∧ ¬ok⌝⟩⦄ := by
  unfold Frame at *
  mvcgen -trivial [Model.okOrNone, hx]
  case handle.isTrue =>
    rename_i he _ hd
    have he : _ = Err.outOfFuel := beq_iff_eq.mp he
    exact ⟨hd.1, he, hd.2.1 he⟩
  case handle.isFalse =>
    rename_i he _ hd
    have he : _ ≠ Err.outOfFuel := fun e => he (beq_iff_eq.mpr e)
    exact ⟨hd.1, hd.2.2 he⟩
  all_goals frame_vc []

theorem Frame.okOrNone {ok : Prop} {α} {x : NM α} (hx : Frame P rs ok x) : Frame P rs ok (okOrNone x) :=
  conseq_NM hx.okOrNone_strict (fun _ _ => id) fun _ _ ⟨hP, he, hok⟩ => ⟨hP, fun _ => hok, fun h => absurd he h⟩

/-- the fuel covers seven levels for each key of the file not yet on the stack, and `c` more. Without a push between, a function of
    the block calls only functions below it in `tryFromNode` 7, `elementFromNode` 6, `complexFromNode` 5, `importExtension` 4,
    `importSequence` 3, `fieldFromNode` 2, `findNodeByXmlName` 1; the fallback of the last pushes a key and starts again at 7. The
    other conjuncts are what `key_mem` and the pigeonhole `room` need to show that the pushed key still has its levels (`Fits.push`). -/
def Fits (all : List (XNode × List XNode)) (ctx : Ctx) (rs : List Key) (c fuel : Nat) : Prop :=
  SchemasHaveTns all ∧ ctx.allElems = all ∧ rs.Nodup ∧ (∀ k ∈ rs, k ∈ keySpace all) ∧
    7 * ((keySpace all).length - rs.length) + c ≤ fuel

theorem Fits.down {all ctx ctx' rs c c' fuel} (hf : Fits all ctx rs c (fuel + 1)) (hc : ctx'.allElems = ctx.allElems) (h : c' + 1 ≤ c) :
    Fits all ctx' rs c' fuel :=
  ⟨hf.1, hc.trans hf.2.1, hf.2.2.1, hf.2.2.2.1, by have := hf.2.2.2.2; omega⟩

theorem Fits.push {all ctx ctx' rs key fuel} (hf : Fits all ctx rs 1 (fuel + 1)) (hc : ctx'.allElems = ctx.allElems)
    (hk : key ∈ keySpace all) (hn : key ∉ rs) : Fits all ctx' (rs ++ [key]) 7 fuel := by
  obtain ⟨ht, hall, hnd, hsub, hfuel⟩ := hf
  refine ⟨ht, hc.trans hall, (List.perm_append_singleton key rs).nodup_iff.mpr (List.nodup_cons.mpr ⟨hn, hnd⟩),
    List.forall_mem_append.mpr ⟨hsub, List.forall_mem_singleton.mpr hk⟩, ?_⟩
  have := room (keySpace all) rs key hnd hsub hk hn
  simp only [List.length_append, List.length_singleton]
  omega

theorem Frame.down {all ctx ctx' c c' fuel} {α} {x : NM α} (hx : Frame P rs (Fits all ctx' rs c' fuel) x)
    (hc : ctx'.allElems = ctx.allElems) (h : c' + 1 ≤ c) : Frame P rs (Fits all ctx rs c (fuel + 1)) x :=
  hx.weaken (·.down hc h)

structure BlockFrame (P : Doc → Prop) (all : List (XNode × List XNode)) (fuel : Nat) : Prop where
  tfn : ∀ node ctx rs, Frame P rs (Fits all ctx rs 7 fuel) (tryFromNode node ctx fuel)
  elt : ∀ node ctx rs, Frame P rs (Fits all ctx rs 6 fuel) (elementFromNode node ctx fuel)
  cpx : ∀ node ctx rs, Frame P rs (Fits all ctx rs 5 fuel) (complexFromNode node ctx fuel)
  ext : ∀ node ctx rs, Frame P rs (Fits all ctx rs 4 fuel) (importExtension node ctx fuel)
  seq : ∀ node ctx acc rs, Frame P rs (Fits all ctx rs 3 fuel) (importSequence node ctx acc fuel)
  fld : ∀ node ctx rs, Frame P rs (Fits all ctx rs 2 fuel) (fieldFromNode node ctx fuel)
  fnd : ∀ ctx x ns k rs, Frame P rs (Fits all ctx rs 1 fuel) (findNodeByXmlName ctx x ns k fuel)

/-- out of fuel: the budget cannot have covered anything -/
theorem frame_zero (all : List (XNode × List XNode)) (ctx : Ctx) (rs : List Key) (c : Nat) {α} :
    Frame P rs (Fits all ctx rs (c + 1) 0) (throw Err.outOfFuel : NM α) := by
  mvcgen
  exact ⟨‹Inv P rs _›.1, fun _ hf => by have := hf.2.2.2.2; omega, fun h => absurd rfl h⟩

theorem block_frame (h : DocInv P) (all : List (XNode × List XNode)) : ∀ fuel, BlockFrame P all fuel := by
  intro fuel
  induction fuel with
  | zero =>
    -- `frame_zero … c` is the frame at level `c + 1`: 7 for `tryFromNode` down to 1 for `findNodeByXmlName`
    exact ⟨fun _ ctx rs => frame_zero all ctx rs 6, fun _ ctx rs => frame_zero all ctx rs 5, fun _ ctx rs => frame_zero all ctx rs 4,
      fun _ ctx rs => frame_zero all ctx rs 3, fun _ ctx _ rs => frame_zero all ctx rs 2, fun _ ctx rs => frame_zero all ctx rs 1,
      fun ctx _ _ _ rs => frame_zero all ctx rs 0⟩
  | succ fuel ih =>
    -- the functions without a loop (tfn, elt, fld, fnd) are unfolded by `mvcgen`, given the frames of their callees; those with
    -- loops (cpx, ext, seq) go through their `_succ` equation and the combinators, so that no loop invariant has to be stated
    refine ⟨fun node ctx rs => ?_, fun node ctx rs => ?_, fun node ctx rs => ?_, fun node ctx rs => ?_,
      fun node ctx acc rs => ?_, fun node ctx rs => ?_, fun ctx x ns k rs => ?_⟩
    · have hcpx := fun node ctx' (hc : ctx'.allElems = ctx.allElems) => (ih.cpx node ctx' rs).down (c := 7) hc (by decide)
      have helt := fun node ctx' (hc : ctx'.allElems = ctx.allElems) => (ih.elt node ctx' rs).down (c := 7) hc (by decide)
      have hsimple := fun node => frame_simple h rs (Fits all ctx rs 7 (fuel + 1)) node
      unfold Frame at *
      mvcgen -trivial [tryFromNode, switchToTargetNamespace, collectNamespacesOnNode, modifyDoc, getDoc, hcpx, helt, hsimple] with frame_vc [Inv.collect h, Inv.switch h]
    · have hcpx := fun node ctx' (hc : ctx'.allElems = ctx.allElems) => (ih.cpx node ctx' rs).down (c := 6) hc (by decide)
      unfold Frame at *
      mvcgen -trivial [elementFromNode, collectNamespacesOnNode, modifyDoc, getDoc, liftOpt, hcpx] with frame_vc [Inv.collect h]
    · have hext := fun node ctx' (hc : ctx'.allElems = ctx.allElems) => (ih.ext node ctx' rs).down (c := 5) hc (by decide)
      have hseq := fun node ctx' acc (hc : ctx'.allElems = ctx.allElems) => (ih.seq node ctx' acc rs).down (c := 5) hc (by decide)
      have hfld := fun node ctx' (hc : ctx'.allElems = ctx.allElems) => (ih.fld node ctx' rs).down (c := 5) hc (by decide)
      have hstep : ∀ name r n,
          Frame P rs (Fits all ctx rs 5 (fuel + 1)) (cpxStep name { ctx with ancestors := node :: ctx.ancestors } fuel r n) := by
        intro name r n
        have hextN := hext n { ctx with ancestors := node :: ctx.ancestors } rfl
        have hseqN := fun acc => hseq n { ctx with ancestors := node :: ctx.ancestors } acc rfl
        have hfldN := hfld n { ctx with ancestors := node :: ctx.ancestors } rfl
        exact Frame.ite (hextN.bind fun fields => (Frame.seqBlocks hseqN _ fields).bind fun _ => Frame.getDoc.bind fun _ => Frame.pure _) <|
          Frame.ite ((hseqN []).bind fun _ => Frame.getDoc.bind fun _ => Frame.pure _) <|
          Frame.ite (hfldN.bind fun _ => Frame.pure _) (Frame.pure _)
      rw [complexFromNode_succ]
      exact (Frame.collect h node).bind fun _ => (Frame.liftOpt _ (by decide)).bind fun name => Frame.getDoc.bind fun _ =>
        Frame.foldlM (hstep name) _ _
    · have hfnd := fun ctx' x ns k (hc : ctx'.allElems = ctx.allElems) => (ih.fnd ctx' x ns k rs).down (c := 4) hc (by decide)
      have hseq := fun node ctx' acc (hc : ctx'.allElems = ctx.allElems) => (ih.seq node ctx' acc rs).down (c := 4) hc (by decide)
      have hfld := fun node ctx' (hc : ctx'.allElems = ctx.allElems) => (ih.fld node ctx' rs).down (c := 4) hc (by decide)
      rw [importExtension_succ]
      split
      · exact Frame.pure _
      · rename_i base _
        have hseqC := fun acc => hseq base { ctx with ancestors := node :: ctx.ancestors } acc rfl
        have hfldB := fun n => hfld n { ctx with ancestors := base :: node :: ctx.ancestors } rfl
        exact (Frame.liftOpt _ (by decide)).bind fun _ => Frame.getDoc.bind fun _ => (hfnd ctx _ _ _ rfl).bind fun _ =>
          (Frame.liftOpt _ (by decide)).bind fun _ => (Frame.seqBlocks hseqC _ _).bind fun _ => Frame.attrFields hfldB _ _
    · have hfld := fun node ctx' (hc : ctx'.allElems = ctx.allElems) => (ih.fld node ctx' rs).down (c := 3) hc (by decide)
      rw [importSequence_succ]
      refine Frame.foldlM (fun acc site => ?_) _ acc
      exact Frame.map (fun x => acc ++ [x]) (hfld site.1 { ctx with ancestors := site.2 } rfl)
    · have hfnd := fun ctx' x ns k (hc : ctx'.allElems = ctx.allElems) => (ih.fnd ctx' x ns k rs).down (c := 2) hc (by decide)
      unfold Frame at *
      mvcgen -trivial [fieldFromNode, switchToTargetNamespace, modifyDoc, getDoc, liftOpt, hfnd] with frame_vc [Inv.switch h]
    · have hok := fun node ctx' (hc : ctx'.allElems = ctx.allElems) =>
        (ih.tfn node ctx' (rs ++ [(x, ns.map (·.uri), k.name)])).okOrNone_strict
      unfold Frame at *
      mvcgen -trivial [findNodeByXmlName, modifyDoc, getDoc, hok]
      case isFalse.pre => exact Inv.push h _ ‹_›
      case isFalse.post.success => exact Inv.pop h _ ‹_›
      case isFalse.post.except.handle =>
        -- `outOfFuel` from the fallback: then the budget did not cover the pushed stack, so not this one either
        rintro hP rfl hfit
        refine ⟨hP, fun _ hf => hfit (hf.push rfl ?_ ?_), fun h => absurd rfl h⟩
        · exact hf.2.1 ▸ key_mem ctx _ x ns k _ _ ‹findGlobalComponent ctx _ x ns k = some _› (hf.2.1 ▸ hf.1)
        · rw [← (‹Inv P rs _› : Inv P rs _).2]
          exact fun hmem => ‹¬_ = true› (List.contains_iff_mem.mpr hmem)
      all_goals frame_vc []

/-! Of the SOAP readers only `messageFromNode` looks components up (and so may change the document); the others leave it alone,
so their frame holds for any `P` and any `ok`. -/

theorem frame_message (h : DocInv P) (all : List (XNode × List XNode)) (node : XNode) (ctx : Ctx) (rs : List Key) (fuel : Nat) :
    Frame P rs (Fits all ctx rs 1 fuel) (messageFromNode node ctx fuel) := by
  have hfnd := fun x ns k => (block_frame h all fuel).fnd ctx x ns k rs
  mvcgen -trivial [messageFromNode, liftOpt, getDoc, hfnd] invariants
  · framePost P rs (Fits all ctx rs 1 fuel)
  with frame_vc []

section
variable (P) (rs) (ok : Prop)

theorem frame_portMessage (n : XNode) : Frame P rs ok (portMessage n) := by
  mvcgen -trivial [portMessage, liftOpt, getDoc] with frame_vc []

theorem frame_port (node : XNode) : Frame P rs ok (portFromNode node) := by
  have hpm := frame_portMessage P rs ok
  have hok := fun n => (hpm n).okOrNone
  mvcgen -trivial [portFromNode, liftOpt, getDoc, hpm, hok] invariants
  · framePost P rs ok
  with frame_vc []

theorem frame_mapToRustNode (po : PortOp) (i : Bool) (parts : String) : Frame P rs ok (mapToRustNode po i parts) := by
  mvcgen -trivial [mapToRustNode, getDoc] with frame_vc []

theorem frame_bindingEnvelope (n : XNode) (po : PortOp) (i : Bool) : Frame P rs ok (bindingEnvelope n po i) := by
  have hm := frame_mapToRustNode P rs ok
  mvcgen -trivial [bindingEnvelope, liftOpt, hm] invariants
  · framePost P rs ok
  · framePost P rs ok
  with frame_vc []

theorem frame_binding (node : XNode) (urls : List (String × Option String)) : Frame P rs ok (bindingFromNode node urls) := by
  have he := frame_bindingEnvelope P rs ok
  have hok := fun n po i => (he n po i).okOrNone
  mvcgen -trivial [bindingFromNode, liftOpt, getDoc, he, hok] invariants
  · framePost P rs ok
  · framePost P rs ok
  with frame_vc []

theorem frame_service (node : XNode) (urls : List (String × Option String)) : Frame P rs ok (serviceFromNode node urls) := by
  mvcgen -trivial [serviceFromNode, liftOpt, getDoc] with frame_vc []

end

theorem Frame.keeps {ok : List Key → Prop} {α} {x : NM α} (hx : ∀ rs, Frame P rs (ok rs) x) : Keeps P x :=
  fun d hd => conseq_NM (hx d.resolving) (fun _ _ h => h.1) (fun _ _ h => h.1) d ⟨hd, rfl⟩

theorem Frame.bounded {α} {x : NM α} {ok : Prop} (hx : Frame (fun _ => True) rs ok x) (hok : ok) : Bounded rs x :=
  fun d hd => conseq_NM hx (fun _ _ h => h.2) (fun e _ h =>
    have he : e ≠ Err.outOfFuel := fun he => h.2.1 he hok
    ⟨h.2.2 he, he⟩) d ⟨trivial, hd⟩

end ZeepVerif.Lemmas.Frame

namespace ZeepVerif.Lemmas.Keeps
open ZeepVerif.Model Std.Do ZeepVerif.Lemmas.Frame

theorem block_keeps {P} (h : DocInv P) : ∀ fuel, BlockKeeps P fuel := fun fuel =>
  have hb := fun all => block_frame h all fuel
  ⟨fun node ctx => Frame.keeps ((hb ctx.allElems).tfn node ctx), fun ctx x ns k => Frame.keeps ((hb ctx.allElems).fnd ctx x ns k),
    fun node ctx => Frame.keeps ((hb ctx.allElems).fld node ctx), fun node ctx acc => Frame.keeps ((hb ctx.allElems).seq node ctx acc),
    fun node ctx => Frame.keeps ((hb ctx.allElems).ext node ctx), fun node ctx => Frame.keeps ((hb ctx.allElems).cpx node ctx),
    fun node ctx => Frame.keeps ((hb ctx.allElems).elt node ctx)⟩

end ZeepVerif.Lemmas.Keeps

namespace ZeepVerif.Lemmas.Depth
open ZeepVerif.Model Std.Do ZeepVerif.Lemmas.Frame

theorem block_bounded (all : List (XNode × List XNode)) (ht : SchemasHaveTns all) : ∀ fuel, BlockBounded all fuel := fun fuel =>
  have hb := block_frame Keeps.docInv_true all fuel
  ⟨fun node ctx rs hc hnd hsub hf => (hb.tfn node ctx rs).bounded ⟨ht, hc, hnd, hsub, hf⟩,
    fun node ctx rs hc hnd hsub hf => (hb.elt node ctx rs).bounded ⟨ht, hc, hnd, hsub, hf⟩,
    fun node ctx rs hc hnd hsub hf => (hb.cpx node ctx rs).bounded ⟨ht, hc, hnd, hsub, hf⟩,
    fun node ctx rs hc hnd hsub hf => (hb.ext node ctx rs).bounded ⟨ht, hc, hnd, hsub, hf⟩,
    fun node ctx acc rs hc hnd hsub hf => (hb.seq node ctx acc rs).bounded ⟨ht, hc, hnd, hsub, hf⟩,
    fun node ctx rs hc hnd hsub hf => (hb.fld node ctx rs).bounded ⟨ht, hc, hnd, hsub, hf⟩,
    fun ctx x ns k rs hc hnd hsub hf => (hb.fnd ctx x ns k rs).bounded ⟨ht, hc, hnd, hsub, hf⟩⟩

end ZeepVerif.Lemmas.Depth
