/- The pieces of `C03Ya.c03_document_program_declared`: the structs of `structsOfNode n` meet `structOK` under `NodeOK n`,
   and the leaf rewriting of `progOf` keeps it. -/
import ZeepVerif.Ya.OfDoc
import ZeepVerif.Lemmas.YaWf
import ZeepVerif.Props.C03

namespace ZeepVerif.Lemmas.YaOfDoc
open ZeepVerif.Model ZeepVerif.Ya ZeepVerif.Lemmas.YaWf

theorem nsLookup_map (l : List Ns) (a : String) :
    nsLookup (l.map fun n => (n.abbreviation, n.uri)) a = (l.find? (·.abbreviation == a)).map (·.uri) := by
  simp [nsLookup, List.find?_map, Function.comp_def]

theorem nsLookup_of_mem_abbr {l : List Ns} {a : String} (h : ∃ u ∈ l, u.abbreviation = a) :
    (nsLookup (l.map (fun n => (n.abbreviation, n.uri))) a).isSome := by
  obtain ⟨u, hu, he⟩ := h
  rw [nsLookup_map, Option.isSome_map, List.find?_isSome]
  exact ⟨u, hu, beq_iff_eq.mpr he⟩

/-- `hnone` (`NoneOK`): the struct of a type without `tns` has no `namespaces` that could bind a member's prefix -/
theorem structOfComplex_ok (P : Prog) (m : Option String) (p : CProps)
    (hnone : p.tns = none → ∀ f ∈ p.fields, f.isAttribute = false → f.tns = none) :
    structOK P (structOfComplex m p) = true := by
  refine structOK_iff.mpr ⟨?_, fun fd hfd => ?_⟩
  · cases ht : p.tns with
    | none => simp [structOfComplex, ht, bound]
    | some t =>
      simp only [structOfComplex, ht, Option.map_some, bound]
      exact nsLookup_of_mem_abbr ⟨t, Props.C03.c03_own_prefix_declared t p.fields, rfl⟩
  · simp only [structOfComplex, List.mem_map] at hfd
    obtain ⟨f, hf, rfl⟩ := hfd
    cases ha : f.isAttribute with
    | true => simp [fieldOK, fieldOf, ha]
    | false =>
      simp only [fieldOK, fieldOf, ha, Bool.false_eq_true, if_false]
      cases hft : f.tns with
      | none => simp [bound]
      | some ns =>
        simp only [Option.map_some, bound]
        cases ht : p.tns with
        | none =>
          have := hnone ht f hf ha
          rw [hft] at this
          cases this
        | some t =>
          simp only [structOfComplex, ht]
          exact nsLookup_of_mem_abbr (Props.C03.c03_prefixes_declared t p.fields f hf ha ns hft)

theorem structOfSimple_ok (P : Prog) (m : Option String) (p : SProps) : structOK P (structOfSimple m p) = true := by
  refine structOK_iff.mpr ⟨?_, ?_⟩
  · cases ht : p.tns with
    | none => simp [structOfSimple, ht, bound]
    | some t => simp [structOfSimple, ht, bound, nsLookup]
  · simp only [structOfSimple]
    split
    · simp [fieldOK]
    · split <;> simp [fieldOK]

/-- a type of a schema without target namespace has no element member of a namespace: such references are outside the
    supported subset (DESIGN.md 2.1) -/
def NoneOK (p : CProps) : Prop := p.tns = none → ∀ f ∈ p.fields, f.isAttribute = false → f.tns = none

def NodeOK (n : RNode) : Prop :=
  match n.rtype with
  | .complex p => NoneOK p
  | .element { etype := .complex cp, .. } => NoneOK cp
  | _ => True

theorem structsOfNode_ok (P : Prog) (n : RNode) (h : NodeOK n) : ∀ sd ∈ structsOfNode n, structOK P sd = true := by
  unfold structsOfNode
  unfold NodeOK at h
  split
  · next p hp =>
    rw [hp] at h
    exact List.forall_mem_singleton.mpr (structOfComplex_ok P _ p h)
  · split
    · exact fun _ h => (List.not_mem_nil h).elim
    · exact List.forall_mem_singleton.mpr (structOfSimple_ok P _ _)
  · next xn cp hp =>
    rw [hp] at h
    exact List.forall_mem_singleton.mpr (structOfComplex_ok P _ cp h)
  · exact fun _ h => (List.not_mem_nil h).elim

/-- `progOf` rewrites every leaf through `resolveAlias` -/
theorem structOK_leaf_irrelevant (P : Prog) (sd : StructD) (g : FieldD → Leaf) (h : structOK P sd = true) :
    structOK P { sd with fields := sd.fields.map fun f => { f with leaf := g f } } = true := by
  obtain ⟨h1, h2⟩ := structOK_iff.mp h
  refine structOK_iff.mpr ⟨h1, fun f hf => ?_⟩
  obtain ⟨f0, hf0, rfl⟩ := List.mem_map.mp hf
  have := h2 f0 hf0
  unfold fieldOK at this ⊢
  simpa using this

end ZeepVerif.Lemmas.YaOfDoc
