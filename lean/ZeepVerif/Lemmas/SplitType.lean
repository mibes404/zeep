/- `split_type` (QName → local name, prefix) on names with and without a colon; `as_rust_type` on a name whose prefix is bound. -/
import ZeepVerif.Model.Reader

namespace ZeepVerif.Lemmas.SplitType
open ZeepVerif.Model

theorem splitAtColon_append : (p rest : List Char) → ':' ∉ p →
    splitAtColon (p ++ rest) = (splitAtColon rest).map fun ab => (p ++ ab.1, ab.2)
  | [], rest, _ => by simp
  | c :: cs, rest, h => by
    have hc : c ≠ ':' := fun e => h (by simp [e])
    have hcs : ':' ∉ cs := fun e => h (by simp [e])
    simp [splitAtColon, hc, splitAtColon_append cs rest hcs]
    rfl

/-- `prefix:local`, with a prefix that contains no colon (every NCName), splits into exactly these two -/
theorem splitType_prefixed (pfx l : String) (h : ':' ∉ pfx.toList) : splitType (pfx ++ ":" ++ l) = (l, some pfx) := by
  unfold splitType
  have : (pfx ++ ":" ++ l).toList = pfx.toList ++ ':' :: l.toList := by
    simp [String.toList_append]
  rw [this, splitAtColon_append _ _ h]
  simp [splitAtColon]

/-- a name without a colon is unprefixed: it goes through the empty prefix -/
theorem splitType_unprefixed (l : String) (h : ':' ∉ l.toList) : splitType l = (l, some "") := by
  unfold splitType
  rw [← List.append_nil l.toList, splitAtColon_append _ _ h]
  rfl

/-- a name whose prefix is bound denotes a user type in that namespace's module, whatever its local name -/
theorem asRustType_of_bound {d : Doc} {t l p : String} {n : Ns} (ht : splitType t = (l, some p)) (hp : lookupNs d p = some n) :
    asRustType d t = .other (xmlNameToRustName l) (some n.rustModName) := by
  simp [asRustType, ht, hp]

end ZeepVerif.Lemmas.SplitType
