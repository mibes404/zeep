/-
The reader model consults the file table only at the start file and at `schemaLocation` values found in files it reads:
two tables that agree on a set of names closed under "schemaLocation values occurring anywhere in a file of the set"
give the same result — document, error and processed-file list alike — for every fuel. No hypothesis on the trees.
-/
import ZeepVerif.Lemmas.FileSteps

namespace ZeepVerif.Lemmas.Irrelevant
open ZeepVerif.Model ZeepVerif.Lemmas.FileSteps

mutual
def deepLocs : XNode → List String
  | .elem t a n tx kids => (match (XNode.elem t a n tx kids).attr? "schemaLocation" with
      | some l => [l]
      | none => []) ++ deepLocsList kids
  | .other => []
def deepLocsList : List XNode → List String
  | [] => []
  | k :: ks => deepLocs k ++ deepLocsList ks
end

theorem deepLocsList_mem (ks : List XNode) (k : XNode) (hk : k ∈ ks) (l : String) (hl : l ∈ deepLocs k) : l ∈ deepLocsList ks := by
  induction ks with
  | nil => cases hk
  | cons x xs ih =>
    simp only [deepLocsList, List.mem_append]
    rcases List.mem_cons.mp hk with rfl | h
    · exact Or.inl hl
    · exact Or.inr (ih h)

theorem deepLocs_kid (n k : XNode) (hk : k ∈ n.kids) (l : String) (hl : l ∈ deepLocs k) : l ∈ deepLocs n := by
  cases n with
  | other => simp [XNode.kids] at hk
  | elem t a nss tx kids =>
    simp only [deepLocs, List.mem_append]
    exact Or.inr (deepLocsList_mem kids k (by simpa [XNode.kids] using hk) l hl)

theorem deepLocs_self (n : XNode) (l : String) (h : n.attr? "schemaLocation" = some l) : l ∈ deepLocs n := by
  cases n with
  | other => simp [XNode.attr?, XNode.attrs] at h
  | elem t a nss tx kids => simp [deepLocs, h]

def LocsIn (S : List String) (n : XNode) : Prop := ∀ l ∈ deepLocs n, l ∈ S

theorem LocsIn.kid {S n k} (h : LocsIn S n) (hk : k ∈ n.kids) : LocsIn S k := fun l hl => h l (deepLocs_kid n k hk l hl)

def Closed (files : String → Option XFile) (S : List String) : Prop :=
  ∀ n ∈ S, ∀ f tops, files n = some f → f.tops = some tops → ∀ top ∈ tops, LocsIn S top

theorem foldlM_congr_mem {m : Type → Type} [Monad m] {α β : Type} (l : List α) (f g : β → α → m β)
    (h : ∀ a ∈ l, ∀ b, f b a = g b a) : ∀ init : β, l.foldlM f init = l.foldlM g init := by
  induction l with
  | nil => intro init; rfl
  | cons x xs ih =>
    intro init
    simp only [List.foldlM_cons]
    rw [h x List.mem_cons_self init]
    congr 1
    funext b
    exact ih (fun a ha b => h a (List.mem_cons_of_mem _ ha) b) b

structure Agree (files files' : String → Option XFile) (S : List String) (fuel : Nat) : Prop where
  int : ∀ name known kn, name ∈ S → readXmlInternal files name known kn fuel = readXmlInternal files' name known kn fuel
  top : ∀ file all node d, LocsIn S node → readTop files file all node d fuel = readTop files' file all node d fuel
  xsd : ∀ file all schema anc d, LocsIn S schema → readXsd files file all schema anc d fuel = readXsd files' file all schema anc d fuel

theorem agree (files files' : String → Option XFile) (S : List String) (hc : Closed files S)
    (ha : ∀ n ∈ S, files n = files' n) : ∀ fuel, Agree files files' S fuel := by
  intro fuel
  induction fuel with
  | zero => exact ⟨fun _ _ _ _ => rfl, fun _ _ _ _ _ => rfl, fun _ _ _ _ _ _ => rfl⟩
  | succ fuel ih =>
    refine ⟨fun name known kn hn => ?_, fun file all node d hl => ?_, fun file all schema anc d hl => ?_⟩
    · rw [readXmlInternal_succ, readXmlInternal_succ, ← ha name hn]
      cases hf : files name with
      | none => rfl
      | some file =>
        dsimp only
        congr 1; funext st
        split
        · rfl
        · cases ht : file.tops with
          | none => rfl
          | some tops =>
            dsimp only
            congr 1; funext _
            exact foldlM_congr_mem _ _ _ (fun top htop d => ih.top file _ top d (hc name hn file tops hf ht top htop)) _
    · rw [readTop_succ, readTop_succ]
      split
      · rfl
      · dsimp only
        split
        · exact ih.xsd file all node [] _ hl
        · split
          · refine foldlM_congr_mem _ _ _ (fun child hchild d => ?_) _
            have : typesStep files file all node fuel child = typesStep files' file all node fuel child := by
              funext d
              unfold typesStep
              split
              · rfl
              · rename_i schema hfind
                exact ih.xsd file all schema [child, node] d ((hl.kid hchild).kid (List.mem_of_find?_eq_some hfind))
            unfold defsStep
            rw [this]
          · rfl
    · rw [readXsd_succ, readXsd_succ]
      refine foldlM_congr_mem _ _ _ (fun child hchild d => ?_) _
      unfold xsdStep importStep
      split
      · split
        · rfl
        · split
          · rfl
          · split
            · rfl
            · rename_i loc hloc
              have hin : loc ∈ S := hl loc (deepLocs_kid schema child hchild loc (deepLocs_self child loc hloc))
              rw [← ha loc hin, ih.int loc _ _ hin]
      · rfl

end ZeepVerif.Lemmas.Irrelevant
