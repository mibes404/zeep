/- The writer on a schema document (no SOAP part) in closed form, and the whole generator on the covered fragment. -/
import ZeepVerif.Model.Emit
import ZeepVerif.Lemmas.ReadDecideX

namespace ZeepVerif.Lemmas.WriteDoc
open ZeepVerif.Model ZeepVerif.Generated

/-- the module of one target namespace: header lines, the text of every node of that namespace in document
    order, the closing brace -/
def moduleChunks (d : Doc) (ns : Ns) : Chunks :=
  ["pub mod " ++ ns.rustModName ++ " {\n", "    use super::*;\n", "    use restrictions::CheckRestrictions;\n"] ++
    (d.nodes.filter (fun n => n.inNs == some ns)).flatMap writeNode ++ ["}\n"]

theorem writeDoc_schema (d : Doc) (hb : d.bindings = []) (hs : d.services = []) :
    writeDoc d = .ok ([Tables.headerText] ++ d.targetNamespaces.flatMap (moduleChunks d) ++
      (d.nodes.filter (fun n => n.inNs.isNone)).flatMap writeNode ++ [Tables.helpersText]) := by
  simp only [writeDoc, hb, hs]
  rw [List.forIn_pure_yield_eq_foldl (fun ns s => s ++ ["pub mod " ++ ns.rustModName ++ " {\n", "    use super::*;\n",
        "    use restrictions::CheckRestrictions;\n"] ++ (d.nodes.filter (fun n => n.inNs == some ns)).flatMap writeNode ++ ["}\n"])]
  simp only [List.forIn_nil, bind, Except.bind, pure, Except.pure]
  congr 1
  congr 1
  congr 1
  simp only [List.append_assoc, List.foldl_append_eq_append, ← List.flatMap_def]
  rfl


open ZeepVerif.Lemmas.ReadFile ZeepVerif.Lemmas.ReadExt ZeepVerif.Lemmas.ReadDecideX

theorem fileDoc_soap (schema : XNode) (tns : String) : (fileDoc schema tns).bindings = [] ∧ (fileDoc schema tns).services = [] := by
  obtain ⟨_, _, _, _, h⟩ := fileDoc_eq schema tns
  rw [h]
  exact ⟨rfl, rfl⟩

/-- `readXml` then `writeDoc` is what `zvdrv modelbatch` runs and what is compared byte for byte with the real tool -/
theorem generator_closed_form (xf : XFile) (h : coveredFileXB xf = true) :
    ∃ schema tns, xf.tops = some [schema] ∧
      let doc : Doc := { fileDoc schema tns with nodes := nodesFrom (fileDoc schema tns) [schema] schema.kids (fileDoc schema tns).nodes }
      (readXml [xf] xf.name).bind writeDoc =
        .ok ([Tables.headerText] ++ doc.targetNamespaces.flatMap (moduleChunks doc) ++
          (doc.nodes.filter (fun n => n.inNs.isNone)).flatMap writeNode ++ [Tables.helpersText]) := by
  obtain ⟨schema, tns, ht, hread⟩ := readXml_of_coveredFileXB xf h
  refine ⟨schema, tns, ht, ?_⟩
  simp only
  rw [hread]
  show writeDoc _ = _
  exact writeDoc_schema _ (fileDoc_soap schema tns).1 (fileDoc_soap schema tns).2

end ZeepVerif.Lemmas.WriteDoc
