/- More component kinds in closed form: simple types by restriction, typed global elements, global elements with an
   anonymous complex type. Definitions and `compOf_nodes`; the reader is related to them in `ReadExt`, which covers
   derivation as well. -/
import ZeepVerif.Lemmas.ReadFile

namespace ZeepVerif.Lemmas.ReadComp
open ZeepVerif.Model ZeepVerif.Lemmas.ReadField ZeepVerif.Lemmas.ReadFile

def isRestriction (k : XNode) : Bool := k.isElem && k.tag == "restriction"

/-- the node a covered component contributes, in document state `d` (no derivation by extension) -/
def compOf (d : Doc) (anc : List XNode) (k : XNode) : Option RNode :=
  if k.tag == "complexType" then
    (k.attr? "name").map fun name => { rtype := .complex (complexOf d k anc name), inNs := d.current }
  else if k.tag == "simpleType" then
    match k.attr? "name", k.kids.find? isRestriction with
    | some name, some r =>
      (r.attr? "base").map fun base =>
        { rtype := .simple { xmlName := name, rustType := asRustType d base, tns := d.current,
                             restrictions := some (buildRestrictions r), comment := parseComment k },
          inNs := d.current }
    | _, _ => none
  else if k.tag == "element" then
    match k.attr? "name" with
    | none => none
    | some name =>
      match k.attr? "type" with
      | some t => some { rtype := .element { xmlName := name, etype := .rustType (asRustType d t) }, inNs := d.current }
      | none =>
        match k.elemKids.find? (fun n => n.tag == "complexType") with
        | some ct => some { rtype := .element { xmlName := name, etype := .complex (complexOf d ct (k :: anc) name) }, inNs := d.current }
        | none => some { rtype := .element { xmlName := name, etype := .unsupported }, inNs := d.current }
  else none

/-- `Absorbed`: see `ReadFile.collectNamespaces_again`. `ct.attr? "name" = none`: `ComplexProps::try_from_node` prefers
    the type's own `name` to the enclosing element's, which `compOf` uses. -/
def Covered (d : Doc) (anc : List XNode) (k : XNode) : Prop :=
  k.isElem = true ∧ k.attr? "targetNamespace" = none ∧ (∀ pu ∈ k.nss, Absorbed d pu) ∧ (compOf d anc k).isSome = true ∧
  (k.tag = "complexType" → ∀ c ∈ k.elemKids, PlainChild (k :: anc) c) ∧
  (k.tag = "element" → k.attr? "type" = none → ∀ ct, k.elemKids.find? (fun n => n.tag == "complexType") = some ct →
    ct.attr? "name" = none ∧ (∀ pu ∈ ct.nss, Absorbed d pu) ∧ ∀ c ∈ ct.elemKids, PlainChild (ct :: k :: anc) c)

theorem compOf_nodes (d : Doc) (ns : List RNode) (anc : List XNode) (k : XNode) :
    compOf { d with nodes := ns } anc k = compOf d anc k := by
  simp only [compOf, complexOf_nodes, asRustType_nodes]

def CoveredKids (d : Doc) (anc : List XNode) (kids : List XNode) : Prop :=
  ∀ k ∈ kids, k = .other ∨ Covered d anc k

def nodeOfC (d : Doc) (anc : List XNode) (k : XNode) : Option RNode :=
  if k.isElem then compOf d anc k else none

structure CoveredFile (xf : XFile) (schema : XNode) (tns : String) : Prop where
  tops : xf.tops = some [schema]
  isElem : schema.isElem = true
  tag : schema.tag = "schema"
  tnsAttr : schema.attr? "targetNamespace" = some tns
  kids : CoveredKids (fileDoc schema tns) [schema] schema.kids
  noImport : ∀ k ∈ schema.kids, k.tag ≠ "import"

end ZeepVerif.Lemmas.ReadComp
