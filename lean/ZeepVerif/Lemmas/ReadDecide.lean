/- Decidable forms of `PlainFile` and `CoveredFile`, which the driver evaluates on the tree the real tool parsed, and
   their soundness. -/
import ZeepVerif.Lemmas.ReadExt

namespace ZeepVerif.Lemmas.ReadDecide
open ZeepVerif.Model ZeepVerif.Lemmas.ReadField ZeepVerif.Lemmas.ReadFile ZeepVerif.Lemmas.ReadComp

def plainDeclB (node : XNode) : Bool :=
  node.isElem && node.tag != "any" && (node.attr? "name").isSome && (node.attr? "ref").isNone &&
  (node.attr? "targetNamespace").isNone

theorem plainDeclB_iff (node : XNode) : plainDeclB node = true ↔ PlainDecl node := by
  simp only [plainDeclB, PlainDecl, Bool.and_eq_true, bne_iff_ne, Option.isNone_iff_eq_none, and_assoc]

def plainChildB (anc : List XNode) (k : XNode) : Bool :=
  k.tag != "complexContent" && (k.tag != "sequence" || (memberSites k anc).all (fun s => plainDeclB s.1)) &&
  (k.tag != "attribute" || plainDeclB k)

theorem plainChildB_iff (anc : List XNode) (k : XNode) : plainChildB anc k = true ↔ PlainChild anc k := by
  simp only [plainChildB, PlainChild, Bool.and_eq_true, Bool.or_eq_true, bne_iff_ne, List.all_eq_true, plainDeclB_iff, and_assoc,
    Decidable.imp_iff_not_or, ne_eq]

def plainKidB (schema : XNode) (k : XNode) : Bool :=
  !k.isElem || (k.tag == "complexType" && (k.attr? "targetNamespace").isNone && (k.attr? "name").isSome &&
    k.elemKids.all (plainChildB [k, schema]) && k.nss.all (fun pu => schema.nss.contains pu))

def plainFileB (xf : XFile) : Bool :=
  match xf.tops with
  | some [schema] =>
    schema.isElem && schema.tag == "schema" && (schema.attr? "targetNamespace").isSome && schema.kids.all (plainKidB schema)
  | _ => false

theorem plainFileB_sound (xf : XFile) (h : plainFileB xf = true) :
    ∃ schema tns, PlainFile xf schema tns := by
  unfold plainFileB at h
  split at h
  · rename_i schema ht
    simp only [Bool.and_eq_true, beq_iff_eq, Option.isSome_iff_exists, List.all_eq_true] at h
    obtain ⟨⟨⟨he, htag⟩, tns, hq⟩, hk⟩ := h
    refine ⟨schema, tns, ht, he, htag, hq, fun k hkm => ?_⟩
    have hkb := hk k hkm
    simp only [plainKidB, Bool.or_eq_true, Bool.not_eq_true', Bool.and_eq_true, beq_iff_eq, Option.isNone_iff_eq_none,
      Option.isSome_iff_exists, List.all_eq_true, plainChildB_iff, List.contains_iff_mem] at hkb
    cases k with
    | other => exact .inl rfl
    | elem =>
      obtain hkb | ⟨⟨⟨⟨h1, h2⟩, name, h3⟩, h4⟩, h5⟩ := hkb
      · cases hkb
      · exact .inr ⟨name, rfl, h1, h2, h3, h4, h5⟩
  · cases h

theorem readXml_of_plainFileB (xf : XFile) (h : plainFileB xf = true) :
    ∃ schema tns, xf.tops = some [schema] ∧ readXml [xf] xf.name =
      .ok { fileDoc schema tns with
            nodes := (fileDoc schema tns).nodes ++ schema.kids.filterMap (nodeOf (fileDoc schema tns) [schema]) } := by
  obtain ⟨schema, tns, hp⟩ := plainFileB_sound xf h
  exact ⟨schema, tns, hp.tops, readXml_plain_file xf schema tns hp⟩


/-- why `coveredKidB` may test `compOf` in the empty document -/
theorem compOf_isSome (d d' : Doc) (anc : List XNode) (k : XNode) : (compOf d anc k).isSome = (compOf d' anc k).isSome := by
  unfold compOf
  by_cases h1 : (k.tag == "complexType") = true
  · simp [h1, Option.isSome_map]
  · by_cases h2 : (k.tag == "simpleType") = true
    · simp only [h1, h2, if_true, Bool.false_eq_true, if_false]
      cases k.attr? "name" <;> cases k.kids.find? isRestriction <;> simp [Option.isSome_map]
    · by_cases h3 : (k.tag == "element") = true
      · simp only [h1, h2, h3, if_true, Bool.false_eq_true, if_false]
        cases k.attr? "name" <;> cases k.attr? "type" <;> cases k.elemKids.find? (fun n => n.tag == "complexType") <;> simp
      · simp [h1, h2, h3]

def coveredKidB (schema : XNode) (k : XNode) : Bool :=
  !k.isElem || (
    (k.attr? "targetNamespace").isNone && k.nss.all (fun pu => schema.nss.contains pu) && k.tag != "import" &&
    (compOf {} [schema] k).isSome &&
    (k.tag != "complexType" || k.elemKids.all (plainChildB [k, schema])) &&
    (k.tag != "element" || (k.attr? "type").isSome ||
      (match k.elemKids.find? (fun n => n.tag == "complexType") with
       | none => true
       | some ct => (ct.attr? "name").isNone && ct.nss.all (fun pu => schema.nss.contains pu) &&
           ct.elemKids.all (plainChildB [ct, k, schema]))))

def coveredFileB (xf : XFile) : Bool :=
  match xf.tops with
  | some [schema] =>
    schema.isElem && schema.tag == "schema" && (schema.attr? "targetNamespace").isSome && schema.kids.all (coveredKidB schema)
  | _ => false

theorem coveredFileB_sound (xf : XFile) (h : coveredFileB xf = true) : ∃ schema tns, CoveredFile xf schema tns := by
  unfold coveredFileB at h
  split at h
  · rename_i schema ht
    simp only [Bool.and_eq_true, beq_iff_eq, Option.isSome_iff_exists, List.all_eq_true] at h
    obtain ⟨⟨⟨he, htag⟩, tns, hq⟩, hk⟩ := h
    have habs : ∀ {l : List (Option String × String)}, (∀ pu ∈ l, pu ∈ schema.nss) → ∀ pu ∈ l, Absorbed (fileDoc schema tns) pu :=
      fun hl pu hpu => fileDoc_absorbs {} schema.nss tns pu (hl pu hpu)
    have hkid : ∀ k ∈ schema.kids, (k = .other ∨ Covered (fileDoc schema tns) [schema] k) ∧ k.tag ≠ "import" := by
      intro k hkm
      have hkb := hk k hkm
      cases k with
      | other => exact ⟨.inl rfl, by decide⟩
      | elem t a n tx ks =>
        simp only [coveredKidB, XNode.isElem, Bool.not_true, Bool.false_or, Bool.and_eq_true, Bool.or_eq_true, bne_iff_ne, ne_eq,
          Option.isNone_iff_eq_none, List.all_eq_true, plainChildB_iff, List.contains_iff_mem, ← Decidable.imp_iff_not_or] at hkb
        obtain ⟨⟨⟨⟨⟨h1, h2⟩, h3⟩, h4⟩, h5⟩, h6⟩ := hkb
        refine ⟨.inr ⟨rfl, h1, habs h2, (compOf_isSome (fileDoc schema tns) {} [schema] _).trans h4, h5, fun htg hty ct hct => ?_⟩, h3⟩
        rcases h6 with h6 | h6
        · simp [hty] at h6
          exact absurd htg h6
        · simp only [hct, Bool.and_eq_true, Option.isNone_iff_eq_none, List.all_eq_true, plainChildB_iff,
            List.contains_iff_mem] at h6
          exact ⟨h6.1.1, habs h6.1.2, h6.2⟩
    exact ⟨schema, tns, ht, he, htag, hq, fun k hkm => (hkid k hkm).1, fun k hkm => (hkid k hkm).2⟩
  · cases h

theorem readXml_of_coveredFileB (xf : XFile) (h : coveredFileB xf = true) :
    ∃ schema tns, xf.tops = some [schema] ∧ readXml [xf] xf.name =
      .ok { fileDoc schema tns with
            nodes := (fileDoc schema tns).nodes ++ schema.kids.filterMap (nodeOfC (fileDoc schema tns) [schema]) } := by
  obtain ⟨schema, tns, hp⟩ := coveredFileB_sound xf h
  exact ⟨schema, tns, hp.tops, readXml_covered_file xf schema tns hp⟩

end ZeepVerif.Lemmas.ReadDecide
