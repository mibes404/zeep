/-
What the document operations of doc.rs (and `collect_namespaces_on_node` of node.rs) do, each stated once. The transformers are
in elimination form — the result is the document itself or one explicit update of it, with what is known on that path — so that
a property of the result is proved by `refine d.addNamespaceReference_elim a u ?_ ?_ ?_` without unfolding the transformer.
Then `Doc.Grows` (the tables only grow, hence `lookupNs_mono`) and the lemmas of the lookups.
-/
import ZeepVerif.Model.Reader

namespace ZeepVerif.Model
open ZeepVerif.Generated

theorem find_uri_some {l : List Ns} {url : String} {n : Ns} (h : l.find? (fun ns => ns.uri == url) = some n) :
    n ∈ l ∧ n.uri = url :=
  ⟨List.mem_of_find?_eq_some h, by simpa using List.find?_some h⟩

theorem find_uri_none {l : List Ns} {url : String} (h : l.find? (fun ns => ns.uri == url) = none) :
    ∀ x ∈ l, x.uri ≠ url := fun x hx e => by simpa [e] using List.find?_eq_none.mp h x hx

@[elab_as_elim]
theorem Doc.addNamespaceReference_elim {motive : Doc → Prop} (d : Doc) (a u : String)
    (same : a.isEmpty = true ∨ u.isEmpty = true ∨ Tables.wellKnownNamespaces.contains u = true ∨ (lookupNs d a).isSome = true →
      motive d)
    (known : ∀ ns, d.namespaces.find? (fun ns => ns.uri == u) = some ns →
      ¬(a.isEmpty = true ∨ u.isEmpty = true ∨ Tables.wellKnownNamespaces.contains u = true ∨ (lookupNs d a).isSome = true) →
      motive { d with lookup := d.lookup ++ [(a, ns)] })
    (fresh : d.namespaces.find? (fun ns => ns.uri == u) = none →
      ¬(a.isEmpty = true ∨ u.isEmpty = true ∨ Tables.wellKnownNamespaces.contains u = true ∨ (lookupNs d a).isSome = true) →
      motive { d with lookup := d.lookup ++ [(a, mkNs u d.namespaces)], namespaces := d.namespaces ++ [mkNs u d.namespaces] }) :
    motive (d.addNamespaceReference a u) := by
  unfold Doc.addNamespaceReference
  split
  · next he => exact same (by rw [Bool.or_eq_true] at he; exact he.elim Or.inl (Or.inr ∘ Or.inl))
  · next he =>
    split
    · next hw => exact same (Or.inr (Or.inr (Or.inl hw)))
    · next hw =>
      split
      · next hl => exact same (Or.inr (Or.inr (Or.inr hl)))
      · next hl =>
        have hnot : ¬(a.isEmpty = true ∨ u.isEmpty = true ∨ Tables.wellKnownNamespaces.contains u = true ∨
            (lookupNs d a).isSome = true) := by
          rw [Bool.or_eq_true] at he
          exact fun h => h.elim (he ∘ Or.inl) (·.elim (he ∘ Or.inr) (·.elim hw hl))
        split
        · next ns hf => exact known ns hf hnot
        · next hf => exact fresh hf hnot

@[elab_as_elim]
theorem Doc.addDefaultNamespace_elim {motive : Doc → Prop} (d : Doc) (u : String)
    (same : u.isEmpty = true ∨ Tables.wellKnownNamespaces.contains u = true ∨ d.defaultNs.isSome = true → motive d)
    (set : ¬(u.isEmpty = true ∨ Tables.wellKnownNamespaces.contains u = true ∨ d.defaultNs.isSome = true) →
      motive { d with defaultNs := some u }) : motive (d.addDefaultNamespace u) := by
  unfold Doc.addDefaultNamespace
  simp only [Bool.or_eq_true, or_assoc]
  split
  · next h => exact same h
  · next h => exact set h

@[elab_as_elim]
theorem Doc.switchToTargetNamespace_elim {motive : Doc → Prop} (d : Doc) (ns : String)
    (same : d.targetNamespaces.any (fun t => t.uri == ns) = true → motive d)
    (new : ∀ t, d.targetNamespaces.any (fun t => t.uri == ns) = false →
      (d.namespaces.find? (fun n => n.uri == ns) = some t ∨
        d.namespaces.find? (fun n => n.uri == ns) = none ∧ t = mkNs ns d.namespaces) →
      motive { d with targetNamespaces := d.targetNamespaces ++ [t], namespaces := d.namespaces ++ [t], current := some t }) :
    motive (d.switchToTargetNamespace ns) := by
  unfold Doc.switchToTargetNamespace
  split
  · next h => exact same h
  · next h =>
    rw [Bool.not_eq_true] at h
    cases hf : d.namespaces.find? (fun n => n.uri == ns) with
    | some t => exact new t h (Or.inl hf)
    | none => exact new _ h (Or.inr ⟨hf, rfl⟩)

theorem Doc.collectNamespaces_keeps {motive : Doc → Prop} (hr : ∀ d a u, motive d → motive (d.addNamespaceReference a u))
    (hd : ∀ d u, motive d → motive (d.addDefaultNamespace u)) (nss : List (Option String × String)) :
    ∀ d, motive d → motive (d.collectNamespaces nss) := fun d h =>
  List.foldlRecOn (motive := motive) nss _ h fun d h pu _ => by
    cases pu.1 with
    | none => exact hd _ _ h
    | some a => exact hr _ _ _ h

theorem Doc.collectNamespaces_frame (d : Doc) (nss : List (Option String × String)) :
    ∃ lk ns df, d.collectNamespaces nss = { d with lookup := lk, namespaces := ns, defaultNs := df } :=
  Doc.collectNamespaces_keeps (motive := fun d' => ∃ lk ns df, d' = { d with lookup := lk, namespaces := ns, defaultNs := df })
    (fun _ a u ⟨_, _, _, h⟩ => h ▸ Doc.addNamespaceReference_elim _ a u (fun _ => ⟨_, _, _, rfl⟩) (fun _ _ _ => ⟨_, _, _, rfl⟩)
      fun _ _ => ⟨_, _, _, rfl⟩)
    (fun _ u ⟨_, _, _, h⟩ => h ▸ Doc.addDefaultNamespace_elim _ u (fun _ => ⟨_, _, _, rfl⟩) fun _ => ⟨_, _, _, rfl⟩) nss d ⟨_, _, _, rfl⟩

theorem foldl_prefix {α β} {f : List α → β → List α} (hf : ∀ acc b, acc <+: f acc b) (l : List β) (init : List α) :
    init <+: l.foldl f init :=
  List.foldlRecOn (motive := (init <+: ·)) l f List.prefix_rfl fun _ h b _ => h.trans (hf _ b)

/-- what each transformer, and the merge of an imported document, does to the namespace tables. The lookups take the first
    match, so what resolved in `d` resolves alike in `d'` (`lookupNs_mono`). -/
structure Doc.Grows (d d' : Doc) : Prop where
  lookup : d.lookup <+: d'.lookup
  namespaces : d.namespaces <+: d'.namespaces
  defaultNs : ∀ u, d.defaultNs = some u → d'.defaultNs = some u

theorem Doc.Grows.refl (d : Doc) : d.Grows d := ⟨List.prefix_rfl, List.prefix_rfl, fun _ => id⟩

theorem Doc.Grows.trans {a b c : Doc} (h₁ : a.Grows b) (h₂ : b.Grows c) : a.Grows c :=
  ⟨h₁.1.trans h₂.1, h₁.2.trans h₂.2, fun u h => h₂.3 u (h₁.3 u h)⟩

theorem Doc.grows_addRef (d : Doc) (a u : String) : d.Grows (d.addNamespaceReference a u) :=
  d.addNamespaceReference_elim a u (fun _ => .refl d) (fun _ _ _ => ⟨List.prefix_append .., List.prefix_rfl, fun _ => id⟩)
    fun _ _ => ⟨List.prefix_append .., List.prefix_append .., fun _ => id⟩

theorem Doc.grows_addDefault (d : Doc) (u : String) : d.Grows (d.addDefaultNamespace u) :=
  d.addDefaultNamespace_elim u (fun _ => .refl d) fun hn =>
    ⟨List.prefix_rfl, List.prefix_rfl, fun _ h => absurd (.inr (.inr (h ▸ rfl))) hn⟩

theorem Doc.grows_switch (d : Doc) (ns : String) : d.Grows (d.switchToTargetNamespace ns) :=
  d.switchToTargetNamespace_elim ns (fun _ => .refl d) fun _ _ _ => ⟨List.prefix_rfl, List.prefix_append .., fun _ => id⟩

theorem Doc.grows_collect (d : Doc) (nss : List (Option String × String)) : d.Grows (d.collectNamespaces nss) :=
  Doc.collectNamespaces_keeps (motive := d.Grows) (fun d' a u h => h.trans (d'.grows_addRef a u))
    (fun d' u h => h.trans (d'.grows_addDefault u)) nss d (.refl d)

theorem Doc.grows_extend (me other : Doc) : me.Grows (me.extend other) :=
  ⟨foldl_prefix (fun acc kv => by split; exact List.prefix_rfl; exact List.prefix_append ..) _ _,
    foldl_prefix (fun acc x => by split; exact List.prefix_rfl; exact List.prefix_append ..) _ _, fun _ => id⟩

theorem mem_extendNoDuplicates {me other : List Ns} {x : Ns} : x ∈ extendNoDuplicates me other ↔ x ∈ me ∨ x ∈ other := by
  unfold extendNoDuplicates
  induction other generalizing me with
  | nil => simp
  | cons o rest ih =>
    simp only [List.foldl_cons]
    split
    · next hc =>
      have : o ∈ me := by simpa using hc
      rw [ih, List.mem_cons]
      constructor
      · rintro (h | h)
        · exact Or.inl h
        · exact Or.inr (Or.inr h)
      · rintro (h | rfl | h)
        · exact Or.inl h
        · exact Or.inl this
        · exact Or.inr h
    · rw [ih, List.mem_append, List.mem_singleton, List.mem_cons, or_assoc]

/-- the fold is how `RustDocument::extend` merges the prefix tables -/
theorem mem_extendLookup {ol l : List (String × Ns)} {kv : String × Ns}
    (h : kv ∈ ol.foldl (fun acc kv => if acc.any (fun x => x.1 == kv.1) then acc else acc ++ [kv]) l) : kv ∈ l ∨ kv ∈ ol :=
  List.foldlRecOn (motive := fun acc => kv ∈ acc → kv ∈ l ∨ kv ∈ ol) ol _ Or.inl (fun acc ih o ho h => by
    split at h
    · exact ih h
    · exact (List.mem_append.mp h).elim ih fun h => Or.inr (List.mem_singleton.mp h ▸ ho)) h

theorem lookupNs_mono {d d' : Doc} {p : String} {n : Ns} (hg : d.Grows d') (h : lookupNs d p = some n) : lookupNs d' p = some n := by
  obtain ⟨⟨e₁, hl⟩, ⟨e₂, hn⟩, hd⟩ := hg
  unfold lookupNs at h ⊢
  rw [← hl, ← hn]
  split
  · next hp =>
    rw [if_pos hp] at h
    cases hu : d.defaultNs with
    | none => simp [hu] at h
    | some u =>
      rw [hu, Option.bind_some] at h
      rw [hd u hu, Option.bind_some, List.find?_append, h, Option.some_or]
  · next hp =>
    rw [if_neg hp] at h
    cases hf : d.lookup.find? (fun kv => kv.1 == p) with
    | none => simp [hf] at h
    | some kv => rw [List.find?_append, hf, Option.some_or]; rwa [hf] at h

theorem lookupNs_of_nonempty {d : Doc} {p : String} (hp : p.isEmpty = false) :
    lookupNs d p = (d.lookup.find? (fun kv => kv.1 == p)).map (·.2) := by
  simp [lookupNs, hp]

theorem lookupNs_addDefault {d : Doc} {p : String} (u : String) (hp : p.isEmpty = false) :
    lookupNs (d.addDefaultNamespace u) p = lookupNs d p :=
  d.addDefaultNamespace_elim u (fun _ => rfl) fun _ => by rw [lookupNs_of_nonempty hp, lookupNs_of_nonempty hp]

theorem lookupNs_addRef_ne {d : Doc} {a p : String} (u : String) (hap : a ≠ p) (hp : p.isEmpty = false) :
    lookupNs (d.addNamespaceReference a u) p = lookupNs d p := by
  refine d.addNamespaceReference_elim a u (fun _ => rfl) (fun ns _ _ => ?_) (fun _ _ => ?_) <;>
    simp [lookupNs_of_nonempty hp, List.find?_append, hap]

theorem lookupNs_addRef_self {d : Doc} {a u : String} (ha : a.isEmpty = false) (hu : u.isEmpty = false)
    (hw : Tables.wellKnownNamespaces.contains u = false) (hn : lookupNs d a = none) :
    ∃ n, lookupNs (d.addNamespaceReference a u) a = some n ∧ n.uri = u := by
  have hf : d.lookup.find? (fun kv => kv.1 == a) = none := by simpa [lookupNs_of_nonempty ha] using hn
  refine d.addNamespaceReference_elim a u (fun h => ?_) (fun ns hns _ => ⟨ns, ?_, ?_⟩) (fun _ _ => ⟨mkNs u d.namespaces, ?_, rfl⟩)
  · rcases h with h | h | h | h <;> simp_all
  · simp [lookupNs_of_nonempty ha, List.find?_append, hf]
  · simpa using List.find?_some hns
  · simp [lookupNs_of_nonempty ha, List.find?_append, hf]

theorem lookupRead_some {d : Doc} {x : String} {ns : Option Ns} {k : Kind} {r : RNode} (h : lookupRead d x ns k = some r) :
    r ∈ d.nodes ++ d.knownNodes ∧ r.rtype.xmlName = some x ∧ r.inNs = ns ∧ k.matchesType r.rtype = true := by
  have := List.find?_some h
  simp only [Bool.and_eq_true, beq_iff_eq] at this
  exact ⟨List.mem_of_find?_eq_some h, this.1.1, this.1.2, this.2⟩

theorem findGlobalComponent_some {ctx d x ns k n anc} (h : findGlobalComponent ctx d x ns k = some (n, anc)) :
    (n, anc) ∈ ctx.allElems ∧ ∃ schema nm, anc.head? = some schema ∧ schema.tag = "schema" ∧ k.matchesTag n.tag = true ∧
      (∀ w t, ns = some w → schema.attr? "targetNamespace" = some t → w.uri = t) ∧
      n.attr? "name" = some nm ∧ (resolveType d nm).1 = x := by
  unfold findGlobalComponent at h
  have hm := List.mem_of_find?_eq_some h
  have hp := List.find?_some h
  refine ⟨hm, ?_⟩
  simp only at hp
  cases hh : anc.head? with
  | none => simp [hh] at hp
  | some schema =>
    simp only [hh, Bool.and_eq_true, beq_iff_eq] at hp
    obtain ⟨⟨⟨hs, hk⟩, hns⟩, hname⟩ := hp
    cases hn : n.attr? "name" with
    | none => simp [hn] at hname
    | some nm =>
      simp only [hn, beq_iff_eq] at hname
      refine ⟨schema, nm, rfl, hs, hk, ?_, rfl, hname⟩
      intro w t hw ht
      subst hw
      simp only [ht, beq_iff_eq] at hns
      exact hns

end ZeepVerif.Model
