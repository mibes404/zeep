/-
Lexical lemmas for C14: the `{:?}` rendering of any text is one string literal whose value is that
text; doc lines contain no line terminator; the operation comment text contains no comment delimiter.
-/
import ZeepVerif.RustLex
import ZeepVerif.Model.Text

namespace ZeepVerif.Lemmas.Literal
open ZeepVerif.RustLex ZeepVerif.Model.Text

theorem lex_plain {c : Char} (h1 : c ≠ '"') (h2 : c ≠ '\\') (h3 : c ≠ '\r') (acc rest : List Char) :
    lexStrBody .norm acc (c :: rest) = lexStrBody .norm (c :: acc) rest := by
  rw [lexStrBody, if_neg h1, if_neg h2, if_neg h3]

theorem lex_hex_digit {c : Char} {d : Nat} (hd : hexVal? c = some d) (v n : Nat) (acc rest : List Char) :
    lexStrBody (.hex v n) acc (c :: rest) = lexStrBody (.hex (16 * v + d) (n + 1)) acc rest := by
  have hne : c ≠ '}' := by rintro rfl; cases hd
  rw [lexStrBody, if_neg hne, hd]

theorem lex_hex_close {v n : Nat} (h0 : n ≠ 0) (h6 : n ≤ 6) (hv : v.isValidChar) (acc rest : List Char) :
    lexStrBody (.hex v n) acc ('}' :: rest) = lexStrBody .norm (Char.ofNat v :: acc) rest := by
  rw [lexStrBody, if_pos rfl, if_neg (by omega)]

theorem hexVal_digitChar : ∀ d : Fin 16, hexVal? (Nat.digitChar d.val) = some d.val := by decide

theorem lex_hex_number (n : Nat) (acc tail : List Char) :
    lexStrBody (.hex 0 0) acc (Nat.toDigits 16 n ++ tail) = lexStrBody (.hex n (Nat.toDigits 16 n).length) acc tail := by
  induction n using Nat.strongRecOn generalizing tail with
  | _ n ih =>
    have hd : hexVal? (Nat.digitChar (n % 16)) = some (n % 16) := hexVal_digitChar ⟨n % 16, Nat.mod_lt _ (by decide)⟩
    rw [Nat.toDigits_eq_if (by decide)]
    split
    · next h =>
      rw [Nat.mod_eq_of_lt h] at hd
      simpa using lex_hex_digit hd 0 0 acc tail
    · rw [List.append_assoc, ih (n / 16) (by omega), List.singleton_append, lex_hex_digit hd, Nat.div_add_mod,
        List.length_append, List.length_singleton]

/-- at most six hex digits: a code point is below 16⁶ -/
theorem lex_unicode_escape (c : Char) (acc tail : List Char) :
    lexStrBody .norm acc (['\\', 'u', '{'] ++ Nat.toDigits 16 c.toNat ++ ['}'] ++ tail) = lexStrBody .norm (c :: acc) tail := by
  have h6 : (Nat.toDigits 16 c.toNat).length ≤ 6 := by
    rw [Nat.length_toDigits_le_iff (by decide) (by decide)]
    have : c.toNat.isValidChar := c.valid
    unfold Nat.isValidChar at this
    omega
  have h0 := Nat.length_toDigits_pos (b := 16) (n := c.toNat)
  have open_ : ∀ r, lexStrBody .norm acc ('\\' :: 'u' :: '{' :: r) = lexStrBody (.hex 0 0) acc r := fun _ => rfl
  rw [List.append_assoc, List.append_assoc, List.cons_append, List.cons_append, List.cons_append, List.nil_append, open_,
    lex_hex_number, List.cons_append, List.nil_append,
    lex_hex_close (v := c.toNat) (by omega) (by omega) c.valid, Char.ofNat_toNat]

theorem lex_esc_char (c : Char) (acc tail : List Char) :
    lexStrBody .norm acc (escChar c ++ tail) = lexStrBody .norm (c :: acc) tail := by
  -- `by_cases`, not `split`: splitting the first `if` of a chain of eight costs a thousand times more
  by_cases h1 : c = '\x00'; · subst h1; rfl
  by_cases h2 : c = '\t'; · subst h2; rfl
  by_cases h3 : c = '\r'; · subst h3; rfl
  by_cases h4 : c = '\n'; · subst h4; rfl
  by_cases h5 : c = '\\'; · subst h5; rfl
  by_cases h6 : c = '"'; · subst h6; rfl
  simp only [escChar, beq_iff_eq, h1, h2, h3, h4, h5, h6, if_false]
  split
  · exact lex_unicode_escape c acc tail
  · exact lex_plain h6 h5 h3 acc tail

theorem lex_esc_body (s : List Char) (acc rest : List Char) :
    lexStrBody .norm acc (s.flatMap escChar ++ '"' :: rest) = some (acc.reverse ++ s, rest) := by
  induction s generalizing acc with
  | nil => simp [lexStrBody]
  | cons c cs ih =>
    simp only [List.flatMap_cons, List.append_assoc]
    rw [lex_esc_char, ih]
    simp

theorem lex_debug_literal (s rest : List Char) : lexStrLit (debugChars s ++ rest) = some (s, rest) := by
  simp only [debugChars, List.cons_append, lexStrLit, List.append_assoc]
  rw [lex_esc_body]
  simp

theorem splitOnChar_pieces (c : Char) (s : List Char) : ∀ l ∈ splitOnChar c s, c ∉ l ∧ l ⊆ s := by
  fun_induction splitOnChar c s with
  | case1 => simp
  | case2 xs ih =>
    exact List.forall_mem_cons.2 ⟨⟨List.not_mem_nil, List.nil_subset _⟩,
      fun l hl => (ih l hl).imp_right (List.subset_cons_of_subset c)⟩
  | case3 x xs hx h t e ih =>
    rw [e, List.forall_mem_cons] at ih
    exact List.forall_mem_cons.2 ⟨⟨by simp [Ne.symm hx, ih.1.1], List.cons_subset_cons x ih.1.2⟩,
      fun l hl => (ih.2 l hl).imp_right (List.subset_cons_of_subset x)⟩
  | case4 x xs hx => simp [Ne.symm hx]

theorem stripCr_subset (l : List Char) : stripCr l ⊆ l := by
  unfold stripCr
  split
  · exact (List.dropLast_sublist _).subset
  · exact List.Subset.refl _

theorem docLines_no_terminator (s : List Char) : ∀ l ∈ docLines s, '\n' ∉ l ∧ '\r' ∉ l := by
  intro l hl
  simp only [docLines, List.mem_flatMap, rustLines, List.mem_map] at hl
  obtain ⟨_, ⟨piece, hpiece, rfl⟩, hl⟩ := hl
  have hp := splitOnChar_pieces '\r' _ l hl
  refine ⟨fun hn => ?_, hp.1⟩
  have h3 : piece ∈ splitOnChar '\n' s := by
    split at hpiece
    · exact (List.dropLast_sublist _).subset hpiece
    · exact hpiece
  exact (splitOnChar_pieces '\n' s piece h3).1 (stripCr_subset _ (hp.2 hn))

theorem lex_line_comment (body rest : List Char) (hn : '\n' ∉ body) (hr : '\r' ∉ body) :
    lexLineComment ('/' :: '/' :: (body ++ '\n' :: rest)) = some (body, '\n' :: rest) := by
  have h : ∀ x ∈ body, decide (x ≠ '\n') = true := fun x hx => decide_eq_true fun e => hn (e ▸ hx)
  rw [lexLineComment, List.takeWhile_append_of_pos h, List.dropWhile_append_of_pos h]
  simp [hr]

def hasPair (a b : Char) : List Char → Bool
  | [] => false
  | x :: l => (x == a && l.head? == some b) || hasPair a b l

theorem replace2_head (a b : Char) (r l : List Char) : (replace2 a b (a :: r) l).head? = l.head? := by
  unfold replace2
  split
  · split
    · next h => simp [h.1]
    · rfl
  · rfl

/-- Neighbours `p q` in the result of `replace("ab", "a b")` were neighbours before and are not `a b`, or
    are one of the two pairs inside the replacement. (Its last character meets what followed the `b` it
    replaces, a pair that was there before; `a ≠ b` keeps that pair from being `a b`.) -/
theorem replace2_pairs {a b : Char} (hab : a ≠ b) (p q : Char) (l : List Char)
    (h : hasPair p q (replace2 a b [a, ' ', b] l) = true) :
    (hasPair p q l = true ∧ ¬(p = a ∧ q = b)) ∨ (p = a ∧ q = ' ') ∨ (p = ' ' ∧ q = b) := by
  fun_induction replace2 a b [a, ' ', b] l with
  | case1 x y rest hxy ih =>
    obtain ⟨rfl, rfl⟩ := hxy
    simp only [List.cons_append, List.nil_append, hasPair, replace2_head, List.head?_cons, Bool.or_eq_true,
      Bool.and_eq_true, beq_iff_eq, Option.some.injEq] at h ⊢
    rcases h with ⟨rfl, rfl⟩ | ⟨rfl, rfl⟩ | ⟨rfl, h⟩ | h
    · exact .inr (.inl ⟨rfl, rfl⟩)
    · exact .inr (.inr ⟨rfl, rfl⟩)
    · exact .inl ⟨.inr (.inl ⟨rfl, h⟩), fun e => hab e.1.symm⟩
    · exact (ih h).imp_left fun h' => ⟨.inr (.inr h'.1), h'.2⟩
  | case2 x y rest hxy ih =>
    rw [hasPair] at h ⊢
    simp only [replace2_head, List.head?_cons, Bool.or_eq_true, Bool.and_eq_true, beq_iff_eq, Option.some.injEq] at h ⊢
    rcases h with ⟨rfl, rfl⟩ | h
    · exact .inl ⟨.inl ⟨rfl, rfl⟩, hxy⟩
    · exact (ih h).imp_left fun h' => ⟨.inr h'.1, h'.2⟩
  | case3 l hl =>
    match l with
    | [] | [x] => simp [hasPair] at h
    | x :: y :: rest => exact absurd rfl (hl x y rest)

theorem commentText_no_delim (name : List Char) :
    hasPair '*' '/' (commentText name) = false ∧ hasPair '/' '*' (commentText name) = false := by
  have h1 : hasPair '*' '/' (replace2 '*' '/' ['*', ' ', '/'] name) = false :=
    Bool.eq_false_iff.2 fun h => by simpa using replace2_pairs (by decide) _ _ _ h
  constructor <;> refine Bool.eq_false_iff.2 fun h => ?_
  · simpa [h1] using replace2_pairs (by decide) _ _ _ h
  · simpa using replace2_pairs (by decide) _ _ _ h

/-- the lexer's equation for a character that begins no delimiter, its side conditions in the form `hasPair` tests them -/
theorem lexBlockBody_skip (d : Nat) (x : Char) (l : List Char)
    (h1 : (x == '*' && l.head? == some '/') = false) (h2 : (x == '/' && l.head? == some '*') = false) :
    lexBlockBody d (x :: l) = lexBlockBody d l :=
  lexBlockBody.eq_4 d x l (fun _ hx hl => by simp [hx, hl] at h1) (fun _ hx hl => by simp [hx, hl] at h2)

theorem lexBlockBody_plain (t rest : List Char) (h1 : hasPair '*' '/' t = false) (h2 : hasPair '/' '*' t = false) :
    lexBlockBody 0 (t ++ ' ' :: '*' :: '/' :: rest) = some rest := by
  induction t with
  | nil => simp [lexBlockBody]
  | cons x t ih =>
    rw [hasPair, Bool.or_eq_false_iff] at h1 h2
    -- the blank that follows the text is the second character of no delimiter
    have hd : ∀ c, c ≠ ' ' → ((t ++ ' ' :: '*' :: '/' :: rest).head? == some c) = (t.head? == some c) := by
      intro c hc
      cases t with
      | nil => simpa using hc.symm
      | cons y r => rfl
    rw [List.cons_append, lexBlockBody_skip, ih h1.2 h2.2]
    · rw [hd _ (by decide)]; exact h1.1
    · rw [hd _ (by decide)]; exact h2.1

theorem lex_operation_comment (name rest : List Char) :
    lexBlockComment (['/', '*', ' '] ++ commentText name ++ [' ', '*', '/'] ++ rest) = some rest := by
  have h := commentText_no_delim name
  have := lexBlockBody_plain (' ' :: commentText name) rest
    (by rw [hasPair, h.1]; simp) (by rw [hasPair, h.2]; simp)
  simpa [lexBlockComment] using this

end ZeepVerif.Lemmas.Literal
