/- From components to the document: the loop of `read_xsd`, namespace declarations met again, `read_xml_internal` on
   a file whose root is one `schema`, and the definitions for a schema file of plain complex types (their theorem,
   `readXml_plain_file`, is at the end of `ReadExt.lean`). -/
import ZeepVerif.Lemmas.ReadField
import ZeepVerif.Lemmas.DocOps

namespace ZeepVerif.Lemmas.ReadFile
open ZeepVerif.Model ZeepVerif.Lemmas.ReadField

inductive Steps {α σ : Type} (R : σ → α → σ → Prop) : σ → List α → σ → Prop
  | nil {p} : Steps R p [] p
  | cons {p x p' rest r} : R p x p' → Steps R p' rest r → Steps R p (x :: rest) r

theorem foldlM_steps {α β : Type} (R : β × RS → α → β × RS → Prop) (step : β → α → FM β)
    (hstep : ∀ b st x b' st', R (b, st) x (b', st') → (step b x).run st = .ok (b', st'))
    {l : List α} {p r : β × RS} (h : Steps R p l r) : (l.foldlM step p.1).run p.2 = .ok r := by
  induction h with
  | nil => rfl
  | @cons p x p' rest r hx _ ih =>
    rw [List.foldlM_cons, StateT.run_bind, hstep p.1 p.2 x p'.1 p'.2 hx]
    exact ih

/-- the pure form of the component case of the monadic `FileSteps.xsdStep` -/
def xsdStep (ctx : Ctx) (d : Doc) (child : XNode) : Doc :=
  match runNM (tryFromNode child ctx nodeFuel) d with
  | (.ok n, d') => { d' with nodes := d'.nodes ++ [n] }
  | (.error _, d') => d'

/-- one child of `schema` in the loop of `read_xsd` at fuel `F + 1`; an import is read at fuel `F`. Not covered: an
    import of a well-known namespace or without `schemaLocation` (`process_import` ignores both) -/
inductive KidRun (files : String → Option XFile) (ctx : Ctx) (F : Nat) : Doc × RS → XNode → Doc × RS → Prop
  | comp {b st k} : k.tag ≠ "import" → (runNM (tryFromNode k ctx nodeFuel) b).1 ≠ .error .outOfFuel →
      KidRun files ctx F (b, st) k (xsdStep ctx b k, st)
  | skip {b st k ns loc xf} : k.tag = "import" → k.attr? "namespace" = some ns →
      Generated.Tables.wellKnownNamespaces.contains ns = false → k.attr? "schemaLocation" = some loc →
      files loc = some xf → st.processed.contains loc = true → KidRun files ctx F (b, st) k (b, st)
  | read {b st k ns loc xf imp st'} : k.tag = "import" → k.attr? "namespace" = some ns →
      Generated.Tables.wellKnownNamespaces.contains ns = false → k.attr? "schemaLocation" = some loc →
      files loc = some xf → st.processed.contains loc = false →
      (readXmlInternal files loc b.namespaces (b.knownNodes ++ b.nodes) F).run st = .ok (imp, st') →
      KidRun files ctx F (b, st) k (b.extend imp, st')

/-- every closed form of a schema's children is such a chain (`steps_X`, `steps_G`, `steps_rec`) -/
theorem readXsd_run {files : String → Option XFile} {file : XFile} {allElems : List (XNode × List XNode)}
    {schema : XNode} {anc : List XNode} {F : Nat} {d : Doc} {st : RS} {r : Doc × RS}
    (h : Steps (KidRun files { ancestors := schema :: anc, allElems := allElems } F) (d, st) schema.kids r) :
    (readXsd files file allElems schema anc d (F + 1)).run st = .ok r := by
  rw [FileSteps.readXsd_succ]
  refine foldlM_steps _ _ (fun b st k b' st' hk => ?_) h
  unfold FileSteps.xsdStep
  cases hk with
  | comp hni hnf =>
    rw [if_neg (by simpa using hni)]
    unfold FileSteps.compStep xsdStep
    generalize runNM (tryFromNode k _ nodeFuel) b = q at hnf ⊢
    obtain ⟨e | n, d'⟩ := q
    · have he : (e == Err.outOfFuel) = false := beq_eq_false_iff_ne.mpr fun he => hnf (he ▸ rfl)
      simp only [he]; rfl
    · rfl
  | skip htag hns hwk hloc hfile hp =>
    rw [if_pos (by simpa using htag)]
    simp only [FileSteps.importStep, hns, hwk, hloc, hfile, Bool.false_eq_true, if_false, StateT.run_bind, StateT.run_get,
      pure_bind, hp, if_true, StateT.run_pure]
    rfl
  | read htag hns hwk hloc hfile hp hread =>
    rw [if_pos (by simpa using htag)]
    simp only [FileSteps.importStep, hns, hwk, hloc, hfile, Bool.false_eq_true, if_false, StateT.run_bind, StateT.run_get,
      pure_bind, hp, hread, StateT.run_pure]
    rfl

theorem readXsd_noimport (files : String → Option XFile) (file : XFile) (allElems : List (XNode × List XNode))
    (schema : XNode) (anc : List XNode) (d : Doc) (fuel : Nat) (st : RS)
    (hni : ∀ k ∈ schema.kids, k.tag ≠ "import")
    (hfuel : ∀ k ∈ schema.kids, ∀ d', (runNM (tryFromNode k { ancestors := schema :: anc, allElems := allElems } nodeFuel) d').1 ≠ .error .outOfFuel) :
    (readXsd files file allElems schema anc d (fuel + 1)).run st =
      .ok (schema.kids.foldl (xsdStep { ancestors := schema :: anc, allElems := allElems }) d, st) := by
  apply readXsd_run
  generalize schema.kids = kids at hni hfuel
  induction kids generalizing d with
  | nil => exact .nil
  | cons k rest ih =>
    exact .cons (.comp (hni k List.mem_cons_self) (hfuel k List.mem_cons_self d))
      (ih _ (fun x hx => hni x (List.mem_cons_of_mem _ hx)) (fun x hx => hfuel x (List.mem_cons_of_mem _ hx)))

theorem tryFromNode_other (ctx : Ctx) (fuel : Nat) (d : Doc) :
    runNM (tryFromNode .other ctx (fuel + 1)) d = (.error .notAnElement, d) := by
  simp only [tryFromNode, XNode.isElem]
  rfl


/-- the loop body of `collect_namespaces_on_node` -/
def nsStep (d : Doc) (pu : Option String × String) : Doc :=
  match pu.1 with
  | some a => d.addNamespaceReference a pu.2
  | none => d.addDefaultNamespace pu.2

/-- the declaration has nothing left to add to the document -/
def Absorbed (d : Doc) (pu : Option String × String) : Prop :=
  match pu.1 with
  | some a => a.isEmpty = true ∨ pu.2.isEmpty = true ∨ Generated.Tables.wellKnownNamespaces.contains pu.2 = true ∨ (lookupNs d a).isSome = true
  | none => pu.2.isEmpty = true ∨ Generated.Tables.wellKnownNamespaces.contains pu.2 = true ∨ d.defaultNs.isSome = true

theorem nsStep_absorbed_noop (d : Doc) (pu : Option String × String) (h : Absorbed d pu) : nsStep d pu = d := by
  obtain ⟨_ | a, u⟩ := pu
  · exact d.addDefaultNamespace_elim u (motive := (· = d)) (fun _ => rfl) fun hn => absurd h hn
  · exact d.addNamespaceReference_elim a u (motive := (· = d)) (fun _ => rfl) (fun _ _ hn => absurd h hn) fun _ hn => absurd h hn

/-- the one fact behind every "reading on does not undo a declaration" (collecting, switching, merging an import) -/
theorem Absorbed.mono {d d' : Doc} {pu : Option String × String} (hg : d.Grows d') (h : Absorbed d pu) : Absorbed d' pu := by
  obtain ⟨_ | a, u⟩ := pu
  · exact h.imp_right (·.imp_right fun h => by
      obtain ⟨u, hu⟩ := Option.isSome_iff_exists.mp h
      rw [hg.defaultNs u hu]; rfl)
  · refine h.imp_right (·.imp_right (·.imp_right fun h => ?_))
    obtain ⟨n, hn⟩ := Option.isSome_iff_exists.mp h
    rw [lookupNs_mono hg hn]; rfl

theorem nsStep_absorbs (d : Doc) (pu : Option String × String) : Absorbed (nsStep d pu) pu := by
  obtain ⟨_ | a, u⟩ := pu
  · exact d.addDefaultNamespace_elim u (motive := fun d' => Absorbed d' (none, u)) id fun _ => .inr (.inr rfl)
  · have hnew : ∀ (n : Ns) (ns : List Ns), ¬Absorbed d (some a, u) →
        Absorbed { d with lookup := d.lookup ++ [(a, n)], namespaces := ns } (some a, u) := fun n ns hn =>
      have ha : a.isEmpty = false := Bool.eq_false_iff.mpr (hn ∘ .inl)
      .inr (.inr (.inr (by simp [lookupNs_of_nonempty ha, List.find?_append])))
    exact d.addNamespaceReference_elim a u (motive := fun d' => Absorbed d' (some a, u)) id
      (fun ns _ hn => hnew ns _ hn) (fun _ hn => hnew _ _ hn)

/-- Why the `collect_namespaces_on_node` of `RustNode::try_from_node` does nothing in the closed forms: `nss` is
    roxmltree's in-scope list, so a component without declarations of its own repeats the root's (`fileDoc_absorbs`). -/
theorem collectNamespaces_again (d : Doc) (nss : List (Option String × String)) (h : ∀ pu ∈ nss, Absorbed d pu) :
    d.collectNamespaces nss = d :=
  List.foldlRecOn (motive := (· = d)) nss _ rfl fun _ e pu hpu => e ▸ nsStep_absorbed_noop d pu (h pu hpu)

theorem collectNamespaces_absorbs (d : Doc) (nss : List (Option String × String)) :
    ∀ pu ∈ nss, Absorbed (d.collectNamespaces nss) pu := by
  induction nss generalizing d with
  | nil => exact fun _ h => nomatch h
  | cons e rest ih =>
    intro pu hpu
    rcases List.mem_cons.mp hpu with rfl | hmem
    · exact (nsStep_absorbs d _).mono ((nsStep d _).grows_collect rest)
    · exact ih (nsStep d e) pu hmem

theorem fileDoc_absorbs (d : Doc) (nss : List (Option String × String)) (tns : String) :
    ∀ pu ∈ nss, Absorbed ((d.collectNamespaces nss).switchToTargetNamespace tns) pu :=
  fun pu hpu => (collectNamespaces_absorbs d nss pu hpu).mono (Doc.grows_switch _ tns)


theorem readTop_schema (files : String → Option XFile) (file : XFile) (allElems : List (XNode × List XNode))
    (node : XNode) (d : Doc) (fuel : Nat) (st : RS) (tns : String)
    (he : node.isElem = true) (htag : node.tag = "schema") (htns : node.attr? "targetNamespace" = some tns) :
    (readTop files file allElems node d (fuel + 1)).run st =
      (readXsd files file allElems node [] (d.switchToTargetNamespace tns) fuel).run st := by
  simp only [FileSteps.readTop_succ, he, htag, htns, Bool.not_true, Bool.false_eq_true, ↓reduceIte]

/-- fuel: 1 `readXmlInternal` + 1 `readTop` -/
theorem readXmlInternal_schema {files : String → Option XFile} {loc : String} {known : List Ns} {kn : List RNode}
    (fuel : Nat) {st : RS} {xf : XFile} {schema : XNode} {tns : String} {r : Doc × RS}
    (hfile : files loc = some xf) (hnp : st.processed.contains loc = false) (tops : xf.tops = some [schema])
    (isElem : schema.isElem = true) (tag : schema.tag = "schema") (tnsAttr : schema.attr? "targetNamespace" = some tns)
    (h : (readXsd files xf (allElemsOf [schema] []) schema []
        ((({ namespaces := known, knownNodes := kn } : Doc).collectNamespaces schema.nss).switchToTargetNamespace tns) fuel).run
          { st with processed := loc :: st.processed } = .ok r) :
    (readXmlInternal files loc known kn (fuel + 2)).run st = .ok r := by
  rw [← readTop_schema _ _ _ _ _ _ _ tns isElem tag tnsAttr] at h
  simp only [FileSteps.readXmlInternal_succ, hfile, tops, StateT.run_bind, StateT.run_get, pure_bind, hnp, Bool.false_eq_true,
    if_false, List.foldlM_cons, List.foldlM_nil, FileSteps.rootDoc, List.find?, isElem, StateT.run_modify, StateT.run_pure, h]
  rfl

/-- 10000: the default fuel of `readXml` -/
theorem readXml_of_run (fs : List XFile) (start : String) (r : Doc × RS)
    (h : (readXmlInternal (fileTable fs) start [] [] 10000).run { processed := [] } = .ok r) : readXml fs start = .ok r.1 := by
  simp only [readXml, readXmlOn, h]


/-- the struct description of a complex type without derivation (`ReadExt.complexFromNode_plain`) -/
def complexOf (d : Doc) (node : XNode) (anc : List XNode) (name : String) : CProps :=
  node.elemKids.foldl (complexStep d name (node :: anc))
    { xmlName := name, fields := [], tns := d.current, comment := parseComment node }

/-! The document with other nodes: everything the reading of a member looks at is unchanged. -/

theorem absorbed_nodes (d : Doc) (ns : List RNode) (pu : Option String × String) :
    Absorbed { d with nodes := ns } pu = Absorbed d pu := rfl

theorem asRustType_nodes (d : Doc) (ns : List RNode) (t : String) : asRustType { d with nodes := ns } t = asRustType d t := rfl

theorem plainField_nodes (d : Doc) (ns : List RNode) (node : XNode) (anc : List XNode) :
    plainField { d with nodes := ns } node anc = plainField d node anc := by
  simp only [plainField, asRustType_nodes]

theorem complexStep_nodes (d : Doc) (ns : List RNode) (name : String) (anc : List XNode) :
    complexStep { d with nodes := ns } name anc = complexStep d name anc := by
  funext r n; simp only [complexStep, plainField_nodes]

theorem complexOf_nodes (d : Doc) (ns : List RNode) (node : XNode) (anc : List XNode) (name : String) :
    complexOf { d with nodes := ns } node anc name = complexOf d node anc name := by
  simp only [complexOf, complexStep_nodes]

/-- for a file of plain complex types; `ReadComp.nodeOfC`, `ReadExt.nodeOfX` for the larger fragments -/
def nodeOf (d : Doc) (anc : List XNode) (k : XNode) : Option RNode :=
  if k.isElem then
    some { rtype := .complex (complexOf d k anc ((k.attr? "name").getD "")), inNs := d.current }
  else none

/-- one root `schema` with a `targetNamespace`, whose children are white space / comments and plain complex types
    that declare no namespaces of their own (`k.nss`, the in-scope list, then holds the root's only) -/
structure PlainFile (xf : XFile) (schema : XNode) (tns : String) : Prop where
  tops : xf.tops = some [schema]
  isElem : schema.isElem = true
  tag : schema.tag = "schema"
  tnsAttr : schema.attr? "targetNamespace" = some tns
  kids : ∀ k ∈ schema.kids, k = .other ∨ ∃ name, k.isElem = true ∧ k.tag = "complexType" ∧ k.attr? "targetNamespace" = none ∧
    k.attr? "name" = some name ∧ (∀ c ∈ k.elemKids, PlainChild [k, schema] c) ∧ (∀ pu ∈ k.nss, pu ∈ schema.nss)

/-- the document state in which the components of the file are read -/
def fileDoc (schema : XNode) (tns : String) : Doc :=
  (({} : Doc).collectNamespaces schema.nss).switchToTargetNamespace tns

theorem fileDoc_eq (schema : XNode) (tns : String) : ∃ lk ns df t,
    fileDoc schema tns = { lookup := lk, namespaces := ns, defaultNs := df, targetNamespaces := [t], current := some t } := by
  obtain ⟨lk, ns, df, h⟩ := Doc.collectNamespaces_frame {} schema.nss
  unfold fileDoc Doc.switchToTargetNamespace
  rw [h]
  exact ⟨lk, _, df, _, rfl⟩

end ZeepVerif.Lemmas.ReadFile
