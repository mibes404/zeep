/- Imports in closed form, one level: a start file whose children are imports of *leaf* files (covered files without
   imports), white space, and covered components. The suffix `G` marks this form, except in `fileDocG` and
   `ReadGraph.readFileG`. For its relation to the general form see the head of `ReadGraph`. -/
import ZeepVerif.Lemmas.ReadExt

namespace ZeepVerif.Lemmas.ReadImport
open ZeepVerif.Model ZeepVerif.Lemmas.ReadFile
open ZeepVerif.Lemmas.ReadExt

/-- the document state in which the components of a file are read, when the reader starts from `d0`
    (`init_with_known_namespaces`: the importer's namespaces and the nodes read so far) -/
def fileDocG (d0 : Doc) (schema : XNode) (tns : String) : Doc :=
  (d0.collectNamespaces schema.nss).switchToTargetNamespace tns

/-- what `init_with_known_namespaces` starts from -/
def startDoc (known : List Ns) (kn : List RNode) : Doc := { namespaces := known, knownNodes := kn }

/-- a leaf file: one root `schema` with a target namespace whose children are covered components (no imports) -/
structure LeafFile (xf : XFile) (schema : XNode) (tns : String) (d0 : Doc) : Prop where
  tops : xf.tops = some [schema]
  isElem : schema.isElem = true
  tag : schema.tag = "schema"
  tnsAttr : schema.attr? "targetNamespace" = some tns
  kids : CovX (fileDocG d0 schema tns) [schema] schema.kids (fileDocG d0 schema tns).nodes

def leafDoc (d0 : Doc) (schema : XNode) (tns : String) : Doc :=
  { fileDocG d0 schema tns with nodes := nodesFrom (fileDocG d0 schema tns) [schema] schema.kids (fileDocG d0 schema tns).nodes }

/-- fuel: 2 `readXmlInternal_schema` + 1 `readXsd_X` -/
theorem readXmlInternal_leaf (files : String → Option XFile) (loc : String) (known : List Ns) (kn : List RNode)
    (fuel : Nat) (st : RS) (xf : XFile) (schema : XNode) (tns : String)
    (hfile : files loc = some xf) (hnp : st.processed.contains loc = false)
    (h : LeafFile xf schema tns (startDoc known kn)) :
    (readXmlInternal files loc known kn (fuel + 3)).run st =
      .ok (leafDoc (startDoc known kn) schema tns, { st with processed := loc :: st.processed }) :=
  readXmlInternal_schema (fuel + 1) hfile hnp h.tops h.isElem h.tag h.tnsAttr <|
    readXsd_X _ _ _ schema [] (fileDocG (startDoc known kn) schema tns) fuel _ h.kids


def stepG (files : String → Option XFile) (anc : List XNode) (p : Doc × RS) (k : XNode) : Doc × RS :=
  if k.tag == "import" then
    match k.attr? "schemaLocation" with
    | some loc =>
      match files loc with
      | some xf =>
        if p.2.processed.contains loc then p else
        match xf.tops with
        | some [schemaB] =>
          (p.1.extend (leafDoc (startDoc p.1.namespaces (p.1.knownNodes ++ p.1.nodes)) schemaB ((schemaB.attr? "targetNamespace").getD "")),
           { p.2 with processed := loc :: p.2.processed })
        | _ => p
      | none => p
    | none => p
  else ({ p.1 with nodes := p.1.nodes ++ (nodeOfX p.1 anc k).toList }, p.2)

theorem stepG_cases (files : String → Option XFile) (anc : List XNode) (p : Doc × RS) (k : XNode) :
    stepG files anc p k = p ∨
    (∃ loc schemaB, p.2.processed.contains loc = false ∧ stepG files anc p k =
      (p.1.extend (leafDoc (startDoc p.1.namespaces (p.1.knownNodes ++ p.1.nodes)) schemaB ((schemaB.attr? "targetNamespace").getD "")),
       { p.2 with processed := loc :: p.2.processed })) ∨
    stepG files anc p k = ({ p.1 with nodes := p.1.nodes ++ (nodeOfX p.1 anc k).toList }, p.2) := by
  unfold stepG
  split
  · split
    · split
      · split
        · exact .inl rfl
        · rename_i hnp
          split
          · exact .inr (.inl ⟨_, _, by simpa using hnp, rfl⟩)
          · exact .inl rfl
      · exact .inl rfl
    · exact .inl rfl
  · exact .inr (.inr rfl)

def ImportOK (files : String → Option XFile) (b : Doc) (st : RS) (k : XNode) : Prop :=
  k.tag = "import" ∧ ∃ ns loc xf schemaB tnsB,
    k.attr? "namespace" = some ns ∧ Generated.Tables.wellKnownNamespaces.contains ns = false ∧
    k.attr? "schemaLocation" = some loc ∧ files loc = some xf ∧ st.processed.contains loc = false ∧
    schemaB.attr? "targetNamespace" = some tnsB ∧
    LeafFile xf schemaB tnsB (startDoc b.namespaces (b.knownNodes ++ b.nodes))

def ImportSkip (files : String → Option XFile) (st : RS) (k : XNode) : Prop :=
  k.tag = "import" ∧ ∃ ns loc xf, k.attr? "namespace" = some ns ∧ Generated.Tables.wellKnownNamespaces.contains ns = false ∧
    k.attr? "schemaLocation" = some loc ∧ files loc = some xf ∧ st.processed.contains loc = true

def CovG (files : String → Option XFile) (anc : List XNode) : List XNode → Doc → RS → Prop
  | [], _, _ => True
  | k :: rest, b, st =>
    ((k = .other ∨ CoveredX b anc k) ∧ k.tag ≠ "import" ∨ ImportOK files b st k ∨ ImportSkip files st k) ∧
    CovG files anc rest (stepG files anc (b, st) k).1 (stepG files anc (b, st) k).2

theorem steps_G (files : String → Option XFile) (ctx : Ctx) (fuel : Nat) : (kids : List XNode) → (d : Doc) → (st : RS) →
    CovG files ctx.ancestors kids d st →
    Steps (KidRun files ctx (fuel + 3)) (d, st) kids (kids.foldl (stepG files ctx.ancestors) (d, st))
  | [], _, _, _ => .nil
  | k :: rest, d, st, ⟨hk, hrest⟩ => by
    refine .cons (p' := stepG files ctx.ancestors (d, st) k) ?_ (steps_G files ctx fuel rest _ _ hrest)
    rcases hk with ⟨hk, hni⟩ | ⟨htag, ns, loc, xf, schemaB, tnsB, hns, hwk, hloc, hfile, hnp, htb, hleaf⟩ |
      ⟨htag, ns, loc, xf, hns, hwk, hloc, hfile, hp⟩
    · -- a component (or white space)
      have h1 : (k.tag == "import") = false := by simpa using hni
      simp only [stepG, h1, Bool.false_eq_true, ↓reduceIte]
      rw [← (xsdStep_X ctx d k hk).1]
      exact .comp hni (xsdStep_X ctx d k hk).2
    · -- an import of a leaf file
      have h1 : (k.tag == "import") = true := by simpa using htag
      simp only [stepG, h1, ↓reduceIte, hloc, hfile, hnp, Bool.false_eq_true, hleaf.tops, htb, Option.getD_some]
      exact .read htag hns hwk hloc hfile hnp (readXmlInternal_leaf files loc _ _ fuel st xf schemaB tnsB hfile hnp hleaf)
    · -- an import of a file that has been read already
      have h1 : (k.tag == "import") = true := by simpa using htag
      simp only [stepG, h1, ↓reduceIte, hloc, hfile, hp]
      exact .skip htag hns hwk hloc hfile hp

/-- fuel: 1 `readXsd` + 3 `readXmlInternal_leaf` -/
theorem readXsd_G (files : String → Option XFile) (file : XFile) (allElems : List (XNode × List XNode))
    (schema : XNode) (anc : List XNode) (d : Doc) (fuel : Nat) (st : RS)
    (h : CovG files (schema :: anc) schema.kids d st) :
    (readXsd files file allElems schema anc d (fuel + 4)).run st =
      .ok (schema.kids.foldl (stepG files (schema :: anc)) (d, st)) :=
  readXsd_run (steps_G files { ancestors := schema :: anc, allElems := allElems } fuel _ _ _ h)


/-- `processed := [start]`: the start file is marked before its children are read -/
structure StartFile (fs : List XFile) (start : String) (xf : XFile) (schema : XNode) (tns : String) : Prop where
  file : fileTable fs start = some xf
  tops : xf.tops = some [schema]
  isElem : schema.isElem = true
  tag : schema.tag = "schema"
  tnsAttr : schema.attr? "targetNamespace" = some tns
  kids : CovG (fileTable fs) [schema] schema.kids (fileDoc schema tns) { processed := [start] }

theorem readXml_start (fs : List XFile) (start : String) (xf : XFile) (schema : XNode) (tns : String)
    (h : StartFile fs start xf schema tns) :
    readXml fs start = .ok (schema.kids.foldl (stepG (fileTable fs) [schema]) (fileDoc schema tns, { processed := [start] })).1 :=
  -- 9998 = 9994 + 4 `readXsd_G`
  readXml_of_run fs start _ <|
    readXmlInternal_schema 9998 h.file rfl h.tops h.isElem h.tag h.tnsAttr <|
      readXsd_G _ _ _ schema [] (fileDoc schema tns) 9994 _ h.kids

end ZeepVerif.Lemmas.ReadImport
