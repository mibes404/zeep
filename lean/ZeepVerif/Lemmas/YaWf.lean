/- Namespace well-formedness in the yaserde model `Ya`: a program whose structs declare their own prefix and every prefix
   their element members use, and whose attribute members have none, serialises every value to XML in which each prefix in
   use is declared on the element or an ancestor. -/
import ZeepVerif.Ya.Model

namespace ZeepVerif.Lemmas.YaWf
open ZeepVerif.Ya

def bound (env : List (String × String)) (p : Option String) : Bool :=
  match p with
  | none => true
  | some q => (nsLookup env q).isSome

def noElem (sd : StructD) : Bool := sd.fields.all (fun f => f.kind != .elem)

/-- what zeep's writer guarantees of a member. Nothing is asked of a text or flattened member: the model writes both as
    character data, under no name. -/
def fieldOK (P : Prog) (sd : StructD) (f : FieldD) : Bool :=
  match f.kind with
  | .elem => bound sd.nss f.pfx
  | .attr => f.pfx.isNone
  | .text => true
  | .flatten => true

def structOK (P : Prog) (sd : StructD) : Bool :=
  bound sd.nss sd.pfx && sd.fields.all (fieldOK P sd)

/-- a `Bool`: `Driver/YaDrv` evaluates it on the derive input of a real program at every `RUN` that ends `ok` -/
def declared (P : Prog) : Bool := P.all (structOK P)

theorem structOK_iff {P : Prog} {sd : StructD} :
    structOK P sd = true ↔ bound sd.nss sd.pfx = true ∧ ∀ f ∈ sd.fields, fieldOK P sd f = true := by
  simp only [structOK, Bool.and_eq_true, List.all_eq_true]

theorem find_mem {P : Prog} {n : String} {sd : StructD} (h : P.find n = some sd) : sd ∈ P := by
  unfold Prog.find at h
  exact List.mem_of_find?_eq_some h

theorem nsLookup_append (a b : List (String × String)) (p : String) :
    nsLookup (a ++ b) p = (nsLookup a p).or (nsLookup b p) := by
  simp only [nsLookup, List.find?_append, Option.map_or]

theorem bound_append (a b : List (String × String)) (p : Option String) :
    bound (a ++ b) p = (bound a p || bound b p) := by
  cases p with
  | none => rfl
  | some q => simp only [bound, nsLookup_append, Option.isSome_or]

theorem bound_append_left {a b p} (h : bound a p = true) : bound (a ++ b) p = true := by
  rw [bound_append, h, Bool.true_or]

theorem bound_append_right {a b p} (h : bound b p = true) : bound (a ++ b) p = true := by
  rw [bound_append, h, Bool.or_true]

theorem resolve_elem_eq_some {env : List (String × String)} {pfx : Option String} {l : String} {decls : List (String × String)}
    {attrs : List (Option String × String × String)} {text : Option String} {kids : PXs} {rx : RX} :
    resolve env (.elem pfx l decls attrs text kids) = some rx ↔
      bound (decls ++ env) pfx = true ∧ attrsBound (decls ++ env) attrs = true ∧
        ∃ rks, resolveList (decls ++ env) kids = some rks ∧
          RX.elem (pfx.bind (nsLookup (decls ++ env))) l (attrs.map fun a => (a.2.1, attrNorm a.2.2)) text rks = rx := by
  simp only [resolve]
  cases pfx with
  | none => cases attrsBound (decls ++ env) attrs <;> cases resolveList (decls ++ env) kids <;> simp [bound]
  | some p =>
    cases h : nsLookup (decls ++ env) p <;> cases attrsBound (decls ++ env) attrs <;>
      cases resolveList (decls ++ env) kids <;> simp [bound, h]

theorem resolveList_cons_eq_some {env : List (String × String)} {x : PX} {r : PXs} {rks : RXs} :
    resolveList env (.cons x r) = some rks ↔
      ∃ x' r', resolve env x = some x' ∧ resolveList env r = some r' ∧ .cons x' r' = rks := by
  simp only [resolveList]
  cases resolve env x <;> cases resolveList env r <;> simp

theorem resolveList_append_eq_some {env : List (String × String)} : {a b : PXs} → {rks : RXs} →
    (resolveList env (a.append b) = some rks ↔
      ∃ x y, resolveList env a = some x ∧ resolveList env b = some y ∧ x.append y = rks)
  | .nil, b, rks => by simp [PXs.append, resolveList, RXs.append]
  | .cons x r, b, rks => by
    simp only [PXs.append, resolveList_cons_eq_some, resolveList_append_eq_some (a := r)]
    constructor
    · rintro ⟨x', _, hx, ⟨r', y, hr, hy, rfl⟩, rfl⟩
      exact ⟨_, y, ⟨x', r', hx, hr, rfl⟩, hy, rfl⟩
    · rintro ⟨_, y, ⟨x', r', hx, hr, rfl⟩, hy, rfl⟩
      exact ⟨x', _, hx, ⟨r', y, hr, hy, rfl⟩, rfl⟩

theorem serItems_cons_eq_some {P : Prog} {l : Option String × String} {leaf : Leaf} {v : Val} {r : Vals} {ks : PXs} :
    serItems P l leaf (.cons v r) = some ks ↔
      ∃ x xs, serVal P l leaf v = some x ∧ serItems P l leaf r = some xs ∧ .cons x xs = ks := by
  simp only [serItems]
  cases serVal P l leaf v <;> cases serItems P l leaf r <;> simp

theorem serVal_struct_eq_some {P : Prog} {l : Option String × String} {n n' : String} {fs : FVals} {px : PX} :
    serVal P l (.struct n) (.struct n' fs) = some px ↔
      n = n' ∧ ∃ sd parts, P.find n = some sd ∧ serFields P sd.fields fs = some parts ∧
        px = .elem l.1 l.2 sd.nss parts.attrs parts.text parts.kids := by
  simp only [serVal, beq_iff_eq]
  split
  · cases P.find n with
    | none => simp
    | some sd => cases h : serFields P sd.fields fs <;> simp [*, eq_comm]
  · simp [*]

/-- `serFields`' case distinction on the member kind, in two functions -/
def fieldLabel (f : FieldD) : Option String × String :=
  match f.kind with
  | .elem => (f.pfx, f.rename)
  | _ => (none, "")

def fieldParts (f : FieldD) (ks : PXs) : Parts :=
  match f.kind with
  | .elem => { kids := ks }
  | .attr => { attrs := ks.texts.map fun t => (f.pfx, f.rename, t) }
  | _ => { text := txt (String.join ks.texts) }

theorem serFields_cons_eq_some {P : Prog} {f : FieldD} {fds : List FieldD} {items : Vals} {rest : FVals} {parts : Parts} :
    serFields P (f :: fds) (.cons items rest) = some parts ↔
      ∃ tail ks, serFields P fds rest = some tail ∧ serItems P (fieldLabel f) f.leaf items = some ks ∧
        (fieldParts f ks).merge tail = parts := by
  simp only [serFields, fieldLabel, fieldParts]
  cases serFields P fds rest with
  | none => simp only [reduceCtorEq, false_and, exists_false]
  | some tail =>
    simp only [Option.some.injEq, exists_and_left, exists_eq_left']
    cases f.kind <;> simp only [Option.map_map, Option.map_eq_some_iff, Function.comp_def]

/-- (not `Lemmas.Flatten.PartsOk`, which is about particles) -/
def PartsOK (env : List (String × String)) (parts : Parts) : Prop :=
  (∀ a ∈ parts.attrs, a.1 = none) ∧ (resolveList env parts.kids).isSome

theorem partsOK_kids {env} {ks : PXs} (h : (resolveList env ks).isSome) : PartsOK env { kids := ks } :=
  ⟨fun _ h => (List.not_mem_nil h).elim, h⟩

theorem partsOK_text {env} (t : Option String) : PartsOK env { text := t } :=
  ⟨fun _ h => (List.not_mem_nil h).elim, rfl⟩

theorem partsOK_merge {env} {a b : Parts} (ha : PartsOK env a) (hb : PartsOK env b) : PartsOK env (a.merge b) := by
  obtain ⟨x, hx⟩ := Option.isSome_iff_exists.mp ha.2
  obtain ⟨y, hy⟩ := Option.isSome_iff_exists.mp hb.2
  refine ⟨fun c hc => ?_, Option.isSome_iff_exists.mpr ⟨_, resolveList_append_eq_some.mpr ⟨x, y, hx, hy, rfl⟩⟩⟩
  exact (List.mem_append.mp hc).elim (ha.1 c) (hb.1 c)

mutual
theorem serVal_resolves (P : Prog) (hP : declared P = true) (env : List (String × String)) (label : Option String × String)
    (leaf : Leaf) (v : Val) (px : PX) (h : serVal P label leaf v = some px)
    (hl : bound (declsOf P leaf ++ env) label.1 = true) :
    (resolve env px).isSome := by
  match leaf, v with
  | .prim t, .prim s =>
    cases h
    exact Option.isSome_iff_exists.mpr ⟨_, resolve_elem_eq_some.mpr ⟨hl, rfl, _, rfl, rfl⟩⟩
  | .struct n, .struct n' fs =>
    obtain ⟨rfl, sd, parts, hf, hs, rfl⟩ := serVal_struct_eq_some.mp h
    simp only [declsOf, hf] at hl
    have hfields := (structOK_iff.mp (List.all_eq_true.mp hP sd (find_mem hf))).2
    obtain ⟨hattrs, hkids⟩ := serFields_resolves P hP (sd.nss ++ env) sd sd.fields fs parts hs hfields
      (fun f hf hk => bound_append_left (by simpa only [fieldOK, hk] using hfields f hf))
    have hall : attrsBound (sd.nss ++ env) parts.attrs = true :=
      List.all_eq_true.mpr fun a ha => by rw [hattrs a ha]
    obtain ⟨ks, hk⟩ := Option.isSome_iff_exists.mp hkids
    exact Option.isSome_iff_exists.mpr ⟨_, resolve_elem_eq_some.mpr ⟨hl, hall, ks, hk, rfl⟩⟩
  | .prim _, .struct _ _ | .struct _, .prim _ => simp [serVal] at h
theorem serFields_resolves (P : Prog) (hP : declared P = true) (env : List (String × String)) (sd : StructD)
    (fds : List FieldD) (fs : FVals) (parts : Parts) (h : serFields P fds fs = some parts)
    (hok : ∀ f ∈ fds, fieldOK P sd f = true)
    (henv : ∀ f ∈ fds, f.kind = .elem → bound env f.pfx = true) :
    PartsOK env parts := by
  match fds, fs with
  | [], .nil =>
    cases h
    exact partsOK_text none
  | f :: rest, .cons items more =>
    obtain ⟨tail, ks, ht, hks, rfl⟩ := serFields_cons_eq_some.mp h
    refine partsOK_merge ?_ (serFields_resolves P hP env sd rest more tail ht
      (fun g hg => hok g (List.mem_cons_of_mem _ hg)) (fun g hg => henv g (List.mem_cons_of_mem _ hg)))
    have hf := hok f List.mem_cons_self
    unfold fieldParts
    unfold fieldLabel at hks
    cases hk : f.kind with
    | elem =>
      rw [hk] at hks
      exact partsOK_kids (serItems_resolves P hP env (f.pfx, f.rename) f.leaf items ks hks
        (bound_append_right (henv f List.mem_cons_self hk)))
    | attr =>
      refine ⟨fun a ha => ?_, rfl⟩
      obtain ⟨t, _, rfl⟩ := List.mem_map.mp ha
      simpa [fieldOK, hk] using hf
    | text | flatten => exact partsOK_text _
  | [], .cons _ _ | _ :: _, .nil => simp [serFields] at h
theorem serItems_resolves (P : Prog) (hP : declared P = true) (env : List (String × String)) (label : Option String × String)
    (leaf : Leaf) (items : Vals) (ks : PXs) (h : serItems P label leaf items = some ks)
    (hl : bound (declsOf P leaf ++ env) label.1 = true) :
    (resolveList env ks).isSome := by
  match items with
  | .nil =>
    cases h
    rfl
  | .cons v r =>
    obtain ⟨x, xs, hv, hr, rfl⟩ := serItems_cons_eq_some.mp h
    obtain ⟨x', hx⟩ := Option.isSome_iff_exists.mp (serVal_resolves P hP env label leaf v x hv hl)
    obtain ⟨xs', hxs⟩ := Option.isSome_iff_exists.mp (serItems_resolves P hP env label leaf r xs hr hl)
    exact Option.isSome_iff_exists.mpr ⟨_, resolveList_cons_eq_some.mpr ⟨x', xs', hx, hxs, rfl⟩⟩
end

end ZeepVerif.Lemmas.YaWf
