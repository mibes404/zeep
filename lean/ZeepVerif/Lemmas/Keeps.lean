/-
Every change the node-level reader makes to the document goes through five primitive transformers, so a predicate that those five
preserve (`DocInv`) is preserved by every call, on a value and on an error exit, for every input. `BlockKeeps` states this for the
mutual block; the theorem `block_keeps` is at the end of `Lemmas/Frame`. `simpleFromNode` and the SOAP readers have no field in it:
what they keep is in `Lemmas/Frame` only (`frame_simple`, `frame_message` … `frame_service`). Beside it, `tfn_inNs`.
-/
import ZeepVerif.Lemmas.DocOps
import Std.Do
import Std.Tactic.Do

namespace ZeepVerif.Lemmas.Keeps
open ZeepVerif.Model Std.Do

set_option mvcgen.warning false

structure DocInv (P : Doc → Prop) : Prop where
  addRef : ∀ d a u, P d → P (d.addNamespaceReference a u)
  addDefault : ∀ d u, P d → P (d.addDefaultNamespace u)
  switch : ∀ d ns, P d → P (d.switchToTargetNamespace ns)
  push : ∀ d key, P d → P { d with resolving := d.resolving ++ [key] }
  pop : ∀ d, P d → P { d with resolving := d.resolving.dropLast }

theorem DocInv.collect {P} (h : DocInv P) (nss : List (Option String × String)) : ∀ d, P d → P (d.collectNamespaces nss) :=
  Doc.collectNamespaces_keeps h.addRef h.addDefault nss

theorem docInv_true : DocInv (fun _ => True) :=
  ⟨fun _ _ _ _ => trivial, fun _ _ _ => trivial, fun _ _ _ => trivial, fun _ _ _ => trivial, fun _ _ => trivial⟩

abbrev Keeps (P : Doc → Prop) {α} (x : NM α) : Prop :=
  ⦃fun d => ⌜P d⌝⦄ x ⦃post⟨fun _ d' => ⌜P d'⌝, fun _ d' => ⌜P d'⌝⟩⦄

theorem conseq_NM {α} {x : NM α} {P : Doc → Prop} {Q Q' : α → Doc → Prop} {E E' : Err → Doc → Prop}
    (h : ⦃fun d => ⌜P d⌝⦄ x ⦃post⟨fun a d => ⌜Q a d⌝, fun e d => ⌜E e d⌝⟩⦄) (hq : ∀ a d, Q a d → Q' a d)
    (he : ∀ e d, E e d → E' e d) : ⦃fun d => ⌜P d⌝⦄ x ⦃post⟨fun a d => ⌜Q' a d⌝, fun e d => ⌜E' e d⌝⟩⦄ :=
  h.entails_wp_of_post (by simp only [PostCond.entails]; exact ⟨hq, he, ExceptConds.entails.rfl⟩)

theorem run_of_triple {α} {x : NM α} {P : Doc → Prop} {Q : α → Doc → Prop} {E : Err → Doc → Prop}
    (h : ⦃fun d => ⌜P d⌝⦄ x ⦃post⟨fun a d' => ⌜Q a d'⌝, fun e d' => ⌜E e d'⌝⟩⦄) {d : Doc} (hd : P d) :
    (∀ a, (runNM x d).1 = .ok a → Q a (runNM x d).2) ∧ (∀ e, (runNM x d).1 = .error e → E e (runNM x d).2) := by
  have := h d hd
  simp only [WP.wp, runNM, ExceptT.run, StateT.run] at this ⊢
  simp [PredTrans.pushExcept, PredTrans.pushArg, PredTrans.apply, Id.run] at this
  simp only [StateT.run, pure, PredTrans.pure] at this
  revert this
  rcases x d with ⟨r, d'⟩
  cases r <;> simp <;> exact id

theorem Keeps.run {P} {α} {x : NM α} (h : Keeps P x) (d : Doc) (hd : P d) : P (runNM x d).2 := by
  cases hr : (runNM x d).1 with
  | ok a => exact (run_of_triple h hd).1 a hr
  | error e => exact (run_of_triple h hd).2 e hr

/-- unfolded, `Returns x fun _ => True` is the same triple, and the result specifications use this lemma for it -/
theorem keeps_true {α} (x : NM α) : Keeps (fun _ => True) x := by
  intro d _
  simp only [WP.wp, PredTrans.pushExcept, PredTrans.pushArg, PredTrans.apply, StateT.run, Id.run, Pure.pure, PredTrans.pure, ExceptT.run]
  rcases x d with ⟨_ | _, _⟩ <;> trivial

/-- a node is filed under the target namespace that is current when its reading ends -/
theorem tfn_inNs (node : XNode) (ctx : Ctx) (fuel : Nat) :
    ⦃fun _ => ⌜True⌝⦄ tryFromNode node ctx fuel ⦃post⟨fun r d' => ⌜r.inNs = d'.current⌝, fun _ _ => ⌜True⌝⟩⦄ := by
  cases fuel with
  | zero => mvcgen -trivial [tryFromNode]
  | succ fuel =>
    have hcpx := fun node ctx => keeps_true (complexFromNode node ctx fuel)
    have helt := fun node ctx => keeps_true (elementFromNode node ctx fuel)
    have hsimple := fun node => keeps_true (simpleFromNode node)
    unfold Keeps at hcpx helt hsimple
    mvcgen -trivial [tryFromNode, switchToTargetNamespace, collectNamespacesOnNode, modifyDoc, getDoc, hcpx, helt, hsimple]

theorem tfn_run_inNs (node : XNode) (ctx : Ctx) (fuel : Nat) (d : Doc) (n : RNode)
    (hr : (runNM (tryFromNode node ctx fuel) d).1 = .ok n) : n.inNs = (runNM (tryFromNode node ctx fuel) d).2.current :=
  (run_of_triple (tfn_inNs node ctx fuel) trivial).1 n hr

structure BlockKeeps (P : Doc → Prop) (fuel : Nat) : Prop where
  tfn : ∀ node ctx, Keeps P (tryFromNode node ctx fuel)
  fnd : ∀ ctx x ns k, Keeps P (findNodeByXmlName ctx x ns k fuel)
  fld : ∀ node ctx, Keeps P (fieldFromNode node ctx fuel)
  seq : ∀ node ctx acc, Keeps P (importSequence node ctx acc fuel)
  ext : ∀ node ctx, Keeps P (importExtension node ctx fuel)
  cpx : ∀ node ctx, Keeps P (complexFromNode node ctx fuel)
  elt : ∀ node ctx, Keeps P (elementFromNode node ctx fuel)

end ZeepVerif.Lemmas.Keeps
