/-
`Returns x Q`: whatever `x` returns satisfies `Q`, in every document state; nothing is said of errors or of the document
afterwards (namespace `Lemmas.Keeps`). In `Props/`, `X_full` is the specification of the reader function `X` relative to
predicates for what its callees return (`D`, `T`, `C`/`E`/`S`, each with a hypothesis `Returns callee …`); `X_spec` is closed.
-/
import ZeepVerif.Lemmas.Keeps

namespace ZeepVerif.Lemmas.Keeps
open ZeepVerif.Model Std.Do

set_option mvcgen.warning false

abbrev Returns {α} (x : NM α) (Q : α → Prop) : Prop :=
  ⦃fun _ => ⌜True⌝⦄ x ⦃post⟨fun r _ => ⌜Q r⌝, fun _ _ => ⌜True⌝⟩⦄

theorem Returns.mono {α} {x : NM α} {Q Q' : α → Prop} (h : Returns x Q) (hq : ∀ a, Q a → Q' a) : Returns x Q' :=
  conseq_NM h (fun a _ => hq a) fun _ _ => id

theorem Returns.pure {α} {Q : α → Prop} {a : α} (h : Q a) : Returns (pure a : NM α) Q := by
  mvcgen

theorem Returns.throw {α} {Q : α → Prop} (e : Err) : Returns (throw e : NM α) Q := by
  mvcgen

theorem Returns.bind {α β} {x : NM α} {f : α → NM β} {Q : α → Prop} {R : β → Prop} (hx : Returns x Q)
    (hf : ∀ a, Q a → Returns (f a) R) : Returns (x >>= f) R :=
  Triple.bind x f hx fun a d ha => hf a ha d trivial

theorem Returns.map {α β} {x : NM α} {Q : α → Prop} (f : α → β) (hx : Returns x Q) : Returns (f <$> x) (fun b => ∃ a, Q a ∧ b = f a) := by
  rw [map_eq_pure_bind]
  exact hx.bind fun a ha => Returns.pure ⟨a, ha, rfl⟩

theorem Returns.liftOpt {α} (o : Option α) (e : Err) : Returns (liftOpt o e) (fun a => o = some a) := by
  cases o <;> mvcgen [Model.liftOpt]

theorem Returns.getDoc : Returns getDoc (fun _ => True) := keeps_true _

theorem Returns.run {α} {x : NM α} {Q : α → Prop} (h : Returns x Q) {d : Doc} {a : α} (hr : (runNM x d).1 = .ok a) : Q a :=
  (run_of_triple h (d := d) trivial).1 a hr

theorem returns_okOrNone {α} {x : NM α} {Q : α → Prop} (h : Returns x Q) :
    Returns (okOrNone x) (fun r => ∀ a, r = some a → Q a) := by
  unfold Returns at *
  mvcgen [okOrNone, h]
  all_goals simp_all

end ZeepVerif.Lemmas.Keeps
