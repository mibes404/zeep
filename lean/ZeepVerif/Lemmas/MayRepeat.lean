/- For C02/C04: `may_repeat` on the decimal rendering of a number. 18446744073709551615 is `u64::MAX`: `may_repeat`
   reads `maxOccurs` with `parse::<u64>`. -/
import ZeepVerif.Model.Reader

namespace ZeepVerif.Model

theorem digit_not_ws (c : Char) (h : c.isDigit = true) : isWs c = false := by
  have : 48 ≤ c.toNat ∧ c.toNat ≤ 57 := Char.isDigit_iff_toNat.mp h
  simp only [isWs]
  simp only [Bool.or_eq_false_iff, Bool.and_eq_false_imp, beq_eq_false_iff_ne, decide_eq_false_iff_not, decide_eq_true_eq]
  omega

theorem dropWhile_ws_digits (cs : List Char) (h : ∀ c ∈ cs, c.isDigit = true) : cs.dropWhile isWs = cs := by
  cases cs with
  | nil => rfl
  | cons c cs => simp [List.dropWhile, digit_not_ws c (h c List.mem_cons_self)]

theorem trimWs_digits (cs : List Char) (h : ∀ c ∈ cs, c.isDigit = true) : trimWs cs = cs := by
  unfold trimWs
  rw [dropWhile_ws_digits cs h, dropWhile_ws_digits cs.reverse (by intro c hc; exact h c (List.mem_reverse.mp hc))]
  simp

theorem parseU64_digits (ds : List Char) (hd : ∀ c ∈ ds, c.isDigit = true) (hne : ds ≠ []) :
    parseU64? ds = if Nat.ofDigitChars 10 ds 0 ≤ 18446744073709551615 then some (Nat.ofDigitChars 10 ds 0) else none := by
  unfold parseU64?
  simp only [trimWs_digits ds hd]
  cases ds with
  | nil => exact absurd rfl hne
  | cons c cs =>
    have hc : c ≠ '+' := fun e => absurd (e ▸ hd c List.mem_cons_self) (by decide)
    split
    next r heq => exact absurd (List.cons.inj heq).1 hc
    next => simp [List.all_eq_true.mpr hd]

theorem mayRepeat_repr (n : Nat) (hn : n ≤ 18446744073709551615) : mayRepeat (some (Nat.repr n)) = decide (1 < n) := by
  have hd : ∀ c ∈ Nat.toDigits 10 n, c.isDigit = true := fun c hc => Nat.isDigit_of_mem_toDigits (by omega) (by omega) hc
  have hl : (Nat.repr n).toList = Nat.toDigits 10 n := Nat.toList_repr
  have hne : Nat.toDigits 10 n ≠ [] := Nat.toDigits_ne_nil
  have hu : (Nat.repr n == "unbounded") = false :=
    beq_eq_false_iff_ne.mpr fun e => absurd (hd 'u' (by rw [← hl, e]; simp)) (by decide)
  simp only [mayRepeat, hu, Bool.false_or, hl, parseU64_digits _ hd hne, Nat.ofDigitChars_ten_toDigits, hn, if_true]

theorem mayRepeat_unbounded : mayRepeat (some "unbounded") = true := by decide
theorem mayRepeat_none : mayRepeat none = false := rfl

end ZeepVerif.Model
