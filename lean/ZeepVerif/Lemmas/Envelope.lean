/-
`read_port_operation` (binding/mod.rs, with `read_body_port_message`, `read_header_port_message`, `map_to_rust_node`) in
closed form: `bindingEnvelope` reads the document only to split a QName, and returns `envelopeOf`.
-/
import ZeepVerif.Lemmas.ReadField

namespace ZeepVerif.Lemmas.Envelope
open ZeepVerif.Model ZeepVerif.Lemmas.ReadField

def msgOf (po : PortOp) (isInput : Bool) : Option Msg := if isInput then some po.input else po.output

/-- `map_to_rust_node`: the node of the part called `part` (prefix stripped) in the direction's message -/
def partNode (po : PortOp) (isInput : Bool) (part : String) : Except Err RNode :=
  match (msgOf po isInput).bind (fun m => bmGet m.parts (splitType part).1) with
  | some (rn, _) => .ok rn
  | none => .error .nodeNotFound

/-- the header entries: one per `soap:header` child, in document order -/
def headersOf (po : PortOp) (isInput : Bool) : List XNode → Except Err (List (String × RNode))
  | [] => .ok []
  | h :: rest =>
    match h.attr? "part" with
    | none => .error .attributeMissing
    | some part =>
      match partNode po isInput part with
      | .error e => .error e
      | .ok rn =>
        match headersOf po isInput rest with
        | .error e => .error e
        | .ok hs => .ok ((part, rn) :: hs)

/-- the body: the part named by `parts=`, else the first part of the message that no `soap:header` binds -/
def bodyOf (n : XNode) (po : PortOp) (isInput : Bool) : Except Err RNode :=
  match firstElemKid n "body" with
  | none => .error .nodeNotFound
  | some b =>
    match b.attr? "use" with
    | none => .error .attributeMissing
    | some enc =>
      if enc != "literal" then .error .unsupportedEncoding
      else match b.attr? "parts" with
        | some parts => partNode po isInput parts
        | none =>
          let headerParts := (elemKidsTagged n "header").filterMap (·.attr? "part")
          match (msgOf po isInput).bind (fun m => m.parts.find? (fun kv => !headerParts.contains kv.1)) with
          | some (_, (rn, _)) => .ok rn
          | none => .error .nodeNotFound

def envelopeOf (n : XNode) (po : PortOp) (isInput : Bool) : Except Err Envelope :=
  match bodyOf n po isInput with
  | .error e => .error e
  | .ok body =>
    match headersOf po isInput (elemKidsTagged n "header") with
    | .error e => .error e
    | .ok hs => .ok { headers := hs, body := body }

theorem runNM_mapToRustNode (po : PortOp) (isInput : Bool) (parts : String) (d : Doc) :
    runNM (mapToRustNode po isInput parts) d = (partNode po isInput parts, d) := by
  unfold mapToRustNode partNode msgOf
  rw [runNM_bind, runNM_getDoc]
  simp only [resolveType]
  split <;> rename_i h <;> simp only [h] <;> rfl

/-- (`body`: of the `for` loop, not the SOAP body) -/
theorem runNM_headers (po : PortOp) (isInput : Bool) (d : Doc)
    (body : XNode → List (String × RNode) → NM (ForInStep (List (String × RNode))))
    (h : ∀ x acc, runNM (body x acc) d = (match x.attr? "part" with
      | none => .error .attributeMissing
      | some part => (partNode po isInput part).map fun rn => .yield (acc ++ [(part, rn)]), d)) :
    ∀ (l : List XNode) (acc : List (String × RNode)),
      runNM (forIn l acc body) d = ((headersOf po isInput l).map (acc ++ ·), d)
  | [], acc => by simp [headersOf, runNM_pure, Except.map]
  | x :: rest, acc => by
    rw [List.forIn_cons, runNM_bind, h, headersOf]
    cases x.attr? "part" with
    | none => rfl
    | some part =>
      simp only []
      cases partNode po isInput part with
      | error e => rfl
      | ok rn =>
        simp only [Except.map, runNM_headers po isInput d body h rest]
        cases headersOf po isInput rest <;> simp

theorem bindingEnvelope_run (n : XNode) (po : PortOp) (isInput : Bool) (d : Doc) :
    runNM (bindingEnvelope n po isInput) d = (envelopeOf n po isInput, d) := by
  unfold bindingEnvelope
  -- `hp`: `headerParts`; `hs0`: the `[]` that `headers` starts from; `msg`: `msg?`; `jp`: the `do` block's join point behind
  -- the choice of the body, i.e. the header loop
  extract_lets hp hs0 jp msg
  have hjp : ∀ body, runNM (jp body) d =
      ((headersOf po isInput (elemKidsTagged n "header")).map ({ headers := ·, body := body }), d) := by
    intro body
    simp only [jp]
    rw [runNM_bind, runNM_headers po isInput d]
    · cases headersOf po isInput (elemKidsTagged n "header") <;> rfl
    · intro x acc
      simp only [runNM_bind, runNM_liftOpt, runNM_mapToRustNode]
      cases x.attr? "part" with
      | none => rfl
      | some part => simp only []; cases partNode po isInput part <;> rfl
  clear_value jp
  unfold envelopeOf bodyOf
  cases firstElemKid n "body" with
  | none => rfl
  | some b =>
    simp only [runNM_bind, runNM_liftOpt]
    cases b.attr? "use" with
    | none => rfl
    | some enc =>
      simp only []
      cases enc != "literal" with
      | true => simp only [if_true, runNM_bind, runNM_throw]
      | false =>
        simp only [Bool.false_eq_true, if_false]
        cases b.attr? "parts" with
        | some parts =>
          simp only [runNM_bind, runNM_mapToRustNode]
          cases partNode po isInput parts <;> simp only [hjp] <;>
            cases headersOf po isInput (elemKidsTagged n "header") <;> rfl
        | none =>
          simp only [msg, hp, msgOf]
          split <;> rename_i h <;> simp only [h, runNM_bind, runNM_pure, runNM_throw, hjp] <;>
            cases headersOf po isInput (elemKidsTagged n "header") <;> rfl

end ZeepVerif.Lemmas.Envelope
