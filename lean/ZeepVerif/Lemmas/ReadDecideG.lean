/- Decidable form of the hypotheses of `readXml_start` (a start file with imports of leaf files), and soundness. -/
import ZeepVerif.Lemmas.ReadImport
import ZeepVerif.Lemmas.ReadDecideX

namespace ZeepVerif.Lemmas.ReadDecideG
open ZeepVerif.Model ZeepVerif.Lemmas.ReadFile
open ZeepVerif.Lemmas.ReadDecideX ZeepVerif.Lemmas.ReadImport

def leafFileB (xf : XFile) (d0 : Doc) : Bool :=
  match xf.tops with
  | some [schema] =>
    schema.isElem && schema.tag == "schema" &&
    (match schema.attr? "targetNamespace" with
     | some tns => covXB schema.nss (fileDocG d0 schema tns) [schema] schema.kids (fileDocG d0 schema tns).nodes
     | none => false)
  | _ => false

theorem leafFileB_sound (xf : XFile) (d0 : Doc) (h : leafFileB xf d0 = true) :
    ∃ schema tns, xf.tops = some [schema] ∧ schema.attr? "targetNamespace" = some tns ∧ LeafFile xf schema tns d0 :=
  let ⟨schema, tns, ht, he, htag, hq, hk⟩ := schemaFileB_sound xf _ h
  ⟨schema, tns, ht, hq, ht, he, htag, hq,
    covXB_sound schema.nss _ [schema] (fileDoc_absorbs d0 schema.nss tns) schema.kids _ hk⟩

def importOKB (files : String → Option XFile) (b : Doc) (st : RS) (k : XNode) : Bool :=
  k.tag == "import" &&
  (match k.attr? "namespace", k.attr? "schemaLocation" with
   | some ns, some loc =>
     !Generated.Tables.wellKnownNamespaces.contains ns &&
     (match files loc with
      | some xf => !st.processed.contains loc && leafFileB xf (startDoc b.namespaces (b.knownNodes ++ b.nodes))
      | none => false)
   | _, _ => false)

theorem importOKB_sound (files : String → Option XFile) (b : Doc) (st : RS) (k : XNode) (h : importOKB files b st k = true) :
    ImportOK files b st k := by
  simp only [importOKB, Bool.and_eq_true, beq_iff_eq] at h
  obtain ⟨htag, h⟩ := h
  split at h
  · rename_i ns loc hns hloc
    simp only [Bool.and_eq_true, Bool.not_eq_true'] at h
    obtain ⟨hwk, h⟩ := h
    split at h
    · rename_i xf hf
      simp only [Bool.and_eq_true, Bool.not_eq_true'] at h
      obtain ⟨schemaB, tnsB, _, htb, hl⟩ := leafFileB_sound xf _ h.2
      exact ⟨htag, ns, loc, xf, schemaB, tnsB, hns, hwk, hloc, hf, h.1, htb, hl⟩
    · cases h
  · cases h

def importSkipB (files : String → Option XFile) (st : RS) (k : XNode) : Bool :=
  k.tag == "import" &&
  (match k.attr? "namespace", k.attr? "schemaLocation" with
   | some ns, some loc => !Generated.Tables.wellKnownNamespaces.contains ns && (files loc).isSome && st.processed.contains loc
   | _, _ => false)

theorem importSkipB_sound (files : String → Option XFile) (st : RS) (k : XNode) (h : importSkipB files st k = true) :
    ImportSkip files st k := by
  simp only [importSkipB, Bool.and_eq_true, beq_iff_eq] at h
  obtain ⟨htag, h⟩ := h
  split at h
  · rename_i ns loc hns hloc
    simp only [Bool.and_eq_true, Bool.not_eq_true', Option.isSome_iff_exists] at h
    obtain ⟨⟨hwk, xf, hfl⟩, hp⟩ := h
    exact ⟨htag, ns, loc, xf, hns, hwk, hloc, hfl, hp⟩
  · cases h

theorem stepG_absorbed (files : String → Option XFile) (anc : List XNode) (b : Doc) (st : RS) (k : XNode)
    (pu : Option String × String) (h : Absorbed b pu) : Absorbed (stepG files anc (b, st) k).1 pu := by
  rcases stepG_cases files anc (b, st) k with e | ⟨_, _, _, e⟩ | e <;> rw [e]
  · exact h
  · exact h.mono (Doc.grows_extend _ _)
  · exact h

def covGB (files : String → Option XFile) (schemaNss : List (Option String × String)) (anc : List XNode) :
    List XNode → Doc → RS → Bool
  | [], _, _ => true
  | k :: rest, b, st =>
    ((k.tag != "import" && (!k.isElem || coveredXB schemaNss b anc k)) || importOKB files b st k || importSkipB files st k) &&
    covGB files schemaNss anc rest (stepG files anc (b, st) k).1 (stepG files anc (b, st) k).2

theorem covGB_sound (files : String → Option XFile) (schemaNss : List (Option String × String)) (anc : List XNode) :
    (kids : List XNode) → (b : Doc) → (st : RS) → (∀ pu ∈ schemaNss, Absorbed b pu) →
    covGB files schemaNss anc kids b st = true → CovG files anc kids b st
  | [], _, _, _, _ => trivial
  | k :: rest, b, st, habs, h => by
    simp only [covGB, Bool.and_eq_true, Bool.or_eq_true, bne_iff_ne, ne_eq] at h
    obtain ⟨h1, h2⟩ := h
    refine ⟨?_, covGB_sound files schemaNss anc rest _ _ (fun pu hpu => stepG_absorbed files anc b st k pu (habs pu hpu)) h2⟩
    rcases h1 with (⟨hni, hk⟩ | himp) | hskip
    · exact .inl ⟨kidB_sound schemaNss b anc k habs ((Bool.or_eq_true _ _).mpr hk), hni⟩
    · exact .inr (.inl (importOKB_sound files b st k himp))
    · exact .inr (.inr (importSkipB_sound files st k hskip))

def startFileB (fs : List XFile) (start : String) : Bool :=
  match fileTable fs start with
  | some xf =>
    (match xf.tops with
     | some [schema] =>
       schema.isElem && schema.tag == "schema" &&
       (match schema.attr? "targetNamespace" with
        | some tns => covGB (fileTable fs) schema.nss [schema] schema.kids (fileDoc schema tns) { processed := [start] }
        | none => false)
     | _ => false)
  | none => false

theorem startFileB_sound (fs : List XFile) (start : String) (h : startFileB fs start = true) :
    ∃ xf schema tns, StartFile fs start xf schema tns := by
  unfold startFileB at h
  split at h
  · rename_i xf hf
    obtain ⟨schema, tns, ht, he, htag, hq, hk⟩ := schemaFileB_sound xf _ h
    exact ⟨xf, schema, tns, hf, ht, he, htag, hq,
      covGB_sound (fileTable fs) schema.nss [schema] schema.kids _ _ (fileDoc_absorbs {} schema.nss tns) hk⟩
  · cases h

theorem readXml_of_startFileB (fs : List XFile) (start : String) (h : startFileB fs start = true) :
    ∃ (schema : XNode) (tns : String), readXml fs start =
      .ok (schema.kids.foldl (stepG (fileTable fs) [schema]) (fileDoc schema tns, { processed := [start] })).1 := by
  obtain ⟨xf, schema, tns, hs⟩ := startFileB_sound fs start h
  exact ⟨schema, tns, readXml_start fs start xf schema tns hs⟩

end ZeepVerif.Lemmas.ReadDecideG
