/- The translator's target calculus (`Flow`, `Res`): when a run over a guard, an early return, a `?` or a `for` of the
   translated Rust ends in `Res.ok`; and `parseInt_eq_ok`. -/
import ZeepVerif.Runtime.Prelude

namespace ZeepVerif.Runtime

@[simp] theorem Flow.seq_cont (b : Flow) : Flow.seq Flow.cont b = b := rfl
@[simp] theorem Flow.seq_ret (r : Res) (b : Flow) : Flow.seq (Flow.ret r) b = Flow.ret r := rfl
@[simp] theorem Flow.run_ret (r : Res) : (Flow.ret r).run = r := rfl
@[simp] theorem Flow.run_cont : Flow.cont.run = Res.err "<fell off the end>" := rfl
@[simp] theorem Flow.ofRes_ok : Flow.ofRes Res.ok = Flow.cont := rfl
@[simp] theorem Flow.ofRes_err (m : String) : Flow.ofRes (Res.err m) = Flow.ret (Res.err m) := rfl
@[simp] theorem forEach_nil {α : Type} (f : α → Flow) : forEach [] f = Flow.cont := rfl
@[simp] theorem forEach_cons {α : Type} (x : α) (xs : List α) (f : α → Flow) :
    forEach (x :: xs) f = Flow.seq (f x) (forEach xs f) := rfl

/-- a guard statement `if c { return Err(m) }` followed by `rest` -/
@[simp] theorem Flow.run_seq_guard (c : Prop) [Decidable c] (m : String) (rest : Flow) :
    (Flow.seq (if c then Flow.ret (Res.err m) else Flow.cont) rest).run = Res.ok ↔ ¬ c ∧ rest.run = Res.ok := by
  by_cases h : c <;> simp [h]

/-- the same guard after `simp` has flipped a negated condition -/
@[simp] theorem Flow.run_seq_guard' (c : Prop) [Decidable c] (m : String) (rest : Flow) :
    (Flow.seq (if c then Flow.cont else Flow.ret (Res.err m)) rest).run = Res.ok ↔ c ∧ rest.run = Res.ok := by
  by_cases h : c <;> simp [h]

/-- an early `if c { return Ok(()) }` followed by `rest` -/
@[simp] theorem Flow.run_seq_retok (c : Prop) [Decidable c] (rest : Flow) :
    (Flow.seq (if c then Flow.ret Res.ok else Flow.cont) rest).run = Res.ok ↔ c ∨ rest.run = Res.ok := by
  by_cases h : c <;> simp [h]

/-- `if let Some(x) = o { if c x { return Err(m) } }` followed by `rest` -/
@[simp] theorem Flow.run_seq_optguard {α : Type} (o : Option α) (c : α → Prop) [∀ a, Decidable (c a)]
    (m : String) (rest : Flow) :
    (Flow.seq (match o with
        | some x => if c x then Flow.ret (Res.err m) else Flow.cont
        | none => Flow.cont) rest).run = Res.ok ↔ (∀ x, o = some x → ¬ c x) ∧ rest.run = Res.ok := by
  cases o <;> simp

theorem Flow.run_seq_ofRes (r : Res) (rest : Flow) :
    (Flow.seq (Flow.ofRes r) rest).run = Res.ok ↔ r = Res.ok ∧ rest.run = Res.ok := by
  cases r <;> simp

/-- `for x in xs { f(x)?; }` followed by `rest` -/
theorem run_seq_forEach_ofRes {α : Type} (f : α → Res) (rest : Flow) : (xs : List α) →
    (((forEach xs fun x => Flow.ofRes (f x)).seq rest).run = Res.ok ↔ (∀ x ∈ xs, f x = Res.ok) ∧ rest.run = Res.ok)
  | [] => by simp
  | x :: xs => by cases h : f x <;> simp [h, run_seq_forEach_ofRes f rest xs]

/-- `g` guards `P` whatever follows it, and what follows comes to `Q`. The translated `match` is another constant than
    the one in `run_seq_optguard`, so that lemma does not rewrite translated code; here `g` is a variable and `hg` is
    proved by cases on the option it tests. -/
theorem Flow.run_seq_of {g rest : Flow} {P Q : Prop}
    (hg : ∀ k : Flow, (g.seq k).run = .ok ↔ P ∧ k.run = .ok) (hr : rest.run = .ok ↔ Q) :
    (g.seq rest).run = .ok ↔ P ∧ Q := (hg rest).trans (and_congr_right' hr)

/-- `str::parse` into a signed type -/
theorem parseInt_eq_ok {ty s : String} {v : Int} (hs : (intRange ty).1 < 0) :
    parseInt ty s = .ok v ↔ lexInt s = some v ∧ inRange ty v := by
  unfold parseInt
  cases lexInt s with
  | none => simp
  | some w =>
    by_cases hw : inRange ty w
    · simp only [hs, not_true, and_false, if_false, hw, if_true, Except.ok.injEq, Option.some.injEq]
      exact ⟨fun e => ⟨e, e ▸ hw⟩, And.left⟩
    · simp only [hs, not_true, and_false, if_false, hw, reduceCtorEq, Option.some.injEq, false_iff]
      exact fun ⟨e, h⟩ => hw (e ▸ h)

end ZeepVerif.Runtime
