/- For C10: the candidate loop of `make_abbreviated_namespace` (`findFreeAbbr`) in closed form; it always finds a free
   abbreviation, and the abbreviation begins with the stem. -/
import ZeepVerif.Model.Reader
import Std.Data.String.ToNat

namespace ZeepVerif.Model

/-- the candidates of `make_abbreviated_namespace`: `abbr`, `abbr1`, `abbr2`, … -/
def cand (base : String) (n : Nat) : String := if n == 0 then base else base ++ toString n

theorem cand_inj (base : String) : Function.Injective (cand base) := by
  intro a b h
  unfold cand at h
  by_cases ha : a = 0 <;> by_cases hb : b = 0
  · omega
  · simp [ha, hb] at h
    exact absurd ((String.append_right_inj base (t₁ := "")).mp (by simpa using h)).symm Nat.repr_ne_empty
  · simp [ha, hb] at h
  · simpa [ha, hb] using h

/-- the loop in closed form: the first free candidate among `fuel` of them from `n` on -/
theorem findFreeAbbr_eq (base : String) (taken : List String) (fuel n : Nat) :
    findFreeAbbr base taken fuel n =
      match (List.range' n fuel).find? (fun k => !taken.contains (cand base k)) with
      | some k => cand base k
      | none => base ++ toString (n + fuel) := by
  induction fuel generalizing n with
  | zero => rfl
  | succ fuel ih =>
    rw [findFreeAbbr, List.range'_succ, List.find?_cons, ih, ← cand]
    by_cases hc : taken.contains (cand base n) = true
    · simp only [hc, if_true, Bool.not_true, Nat.add_assoc, Nat.add_comm 1]
    · simp only [hc, Bool.false_eq_true, if_false, Bool.not_false]

/-- pigeonhole: `taken.length + 1` pairwise distinct candidates cannot all be taken -/
theorem findFree_fresh (base : String) (taken : List String) :
    findFreeAbbr base taken (taken.length + 1) 0 ∉ taken := by
  rw [findFreeAbbr_eq]
  split
  · next hk => simpa using List.find?_some hk
  · next hnone =>
    rw [List.find?_range'_eq_none] at hnone
    have hsub : (List.range (taken.length + 1)).map (cand base) ⊆ taken := fun x hx => by
      obtain ⟨k, hk, rfl⟩ := List.mem_map.mp hx
      simpa using hnone k (Nat.zero_le k) (by simpa using hk)
    have hnd : ((List.range (taken.length + 1)).map (cand base)).Nodup :=
      List.nodup_range.map _ fun _ _ h e => h (cand_inj base e)
    exact absurd (by simpa using hnd.length_le_of_subset hsub) (Nat.not_succ_le_self taken.length)

theorem findFreeAbbr_prefix (base : String) (taken : List String) (fuel n : Nat) :
    ∃ s, findFreeAbbr base taken fuel n = base ++ s := by
  rw [findFreeAbbr_eq]
  split
  · unfold cand
    split
    · exact ⟨"", by simp⟩
    · exact ⟨_, rfl⟩
  · exact ⟨_, rfl⟩
end ZeepVerif.Model
