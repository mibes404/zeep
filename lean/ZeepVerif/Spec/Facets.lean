/-
XSD facet semantics (XML Schema Part 2, §4.3), written from the standard and from property C06's
statement — never from zeep's code. This is the specification side of C06/C07.
-/
import ZeepVerif.Runtime.Prelude

namespace ZeepVerif.Spec
open ZeepVerif.Runtime

/-- the supported constraining facets of a simple-type restriction -/
structure Facets where
  minInclusive : Option Int := none
  maxInclusive : Option Int := none
  minExclusive : Option Int := none
  maxExclusive : Option Int := none
  length : Option Int := none
  minLength : Option Int := none
  maxLength : Option Int := none
  enumeration : Option (List String) := none
deriving Repr, DecidableEq, Inhabited

/-- v ≥ minInclusive ∧ v ≤ maxInclusive ∧ v > minExclusive ∧ v < maxExclusive (absent facet = no constraint) -/
def Facets.satInt (f : Facets) (v : Int) : Prop :=
  (∀ m, f.minInclusive = some m → m ≤ v) ∧
  (∀ m, f.maxInclusive = some m → v ≤ m) ∧
  (∀ m, f.minExclusive = some m → m < v) ∧
  (∀ m, f.maxExclusive = some m → v < m)

def Facets.hasNumeric (f : Facets) : Prop :=
  f.minInclusive ≠ none ∨ f.maxInclusive ≠ none ∨ f.minExclusive ≠ none ∨ f.maxExclusive ≠ none

instance (f : Facets) : Decidable f.hasNumeric := by unfold Facets.hasNumeric; exact inferInstance

/- `lexInt` (value of the lexical form of an XSD integer: optional sign, one or more decimal digits;
   unbounded) lives in the runtime prelude: Rust's signed-integer `FromStr` grammar is the same. -/

/-- length facets count characters (code points); enumeration is membership; numeric facets on a
    string-carried value constrain the integer it denotes -/
def Facets.satString (f : Facets) (s : String) : Prop :=
  (∀ n, f.length = some n → Int.ofNat s.length = n) ∧
  (∀ n, f.minLength = some n → n ≤ Int.ofNat s.length) ∧
  (∀ n, f.maxLength = some n → Int.ofNat s.length ≤ n) ∧
  (∀ e, f.enumeration = some e → s ∈ e) ∧
  (f.hasNumeric → ∃ v, lexInt s = some v ∧ f.satInt v)

/-! Executable (Bool) versions, used by the driver as the property oracle; proved equal to the Props. -/

def optAll (o : Option Int) (p : Int → Bool) : Bool := match o with | some m => p m | none => true

def Facets.satIntB (f : Facets) (v : Int) : Bool :=
  optAll f.minInclusive (fun m => decide (m ≤ v)) && optAll f.maxInclusive (fun m => decide (v ≤ m)) &&
  optAll f.minExclusive (fun m => decide (m < v)) && optAll f.maxExclusive (fun m => decide (v < m))

theorem optAll_iff (o : Option Int) (p : Int → Bool) : optAll o p = true ↔ ∀ m, o = some m → p m = true := by
  cases o <;> simp [optAll]

theorem Facets.satIntB_iff (f : Facets) (v : Int) : f.satIntB v = true ↔ f.satInt v := by
  simp only [Facets.satIntB, Facets.satInt, Bool.and_eq_true, optAll_iff, decide_eq_true_eq, and_assoc]

def Facets.hasNumericB (f : Facets) : Bool :=
  f.minInclusive.isSome || f.maxInclusive.isSome || f.minExclusive.isSome || f.maxExclusive.isSome

def Facets.satStringB (f : Facets) (s : String) : Bool :=
  let n : Int := Int.ofNat s.length
  optAll f.length (fun m => decide (n = m)) && optAll f.minLength (fun m => decide (m ≤ n)) &&
  optAll f.maxLength (fun m => decide (n ≤ m)) &&
  (match f.enumeration with | some e => e.contains s | none => true) &&
  (if f.hasNumericB then (match lexInt s with | some v => f.satIntB v | none => false) else true)

theorem Facets.hasNumericB_iff (f : Facets) : f.hasNumericB = true ↔ f.hasNumeric := by
  simp only [Facets.hasNumericB, Facets.hasNumeric, Bool.or_eq_true, Option.isSome_iff_ne_none, or_assoc]

theorem Facets.satStringB_iff (f : Facets) (s : String) : f.satStringB s = true ↔ f.satString s := by
  simp only [Facets.satStringB, Facets.satString, Bool.and_eq_true, optAll_iff, decide_eq_true_eq, and_assoc]
  -- by position: length, minLength, maxLength agree as they stand; left are enumeration and the numeric facets
  refine and_congr_right' <| and_congr_right' <| and_congr_right' <| and_congr ?_ ?_
  · cases f.enumeration <;> simp
  · rw [← f.hasNumericB_iff]
    cases f.hasNumericB <;> cases lexInt s <;> simp [f.satIntB_iff]

end ZeepVerif.Spec
